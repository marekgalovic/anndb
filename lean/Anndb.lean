import Anndb.Drive.Catalogue
import Anndb.Drive.Cluster
import Anndb.Drive.Codec
import Anndb.Drive.Exact
import Anndb.Drive.Hnsw
import Anndb.Drive.Members
import Anndb.Drive.PQ
import Anndb.Drive.Partition
import Anndb.Drive.Placement
import Anndb.Drive.RaftLoop
import Anndb.Drive.Recovery
import Anndb.Drive.Routing
import Anndb.Drive.Rpc
import Anndb.Drive.Simd
import Anndb.Drive.Util
import Anndb.Drive.Wal
import Anndb.Drive.Wedge
import Anndb.Props.C01
import Anndb.Props.C02
import Anndb.Props.C03
import Anndb.Props.C04
import Anndb.Props.C05
import Anndb.Props.C06
import Anndb.Props.C07
import Anndb.Props.C08
import Anndb.Props.C09
import Anndb.Props.C10
import Anndb.Props.C11
import Anndb.Props.C12
import Anndb.Props.C13
import Anndb.Props.C14
import Anndb.Props.C15
import Anndb.Props.C16
import Anndb.Props.C17
import Anndb.Props.C18
import Anndb.Props.C19
import Anndb.Props.C20
