import Anndb.Model.WalKeys
import Anndb.Proofs.WalEntries
import Anndb.Proofs.WalHistory
import Anndb.Proofs.CodecLemmas
import Anndb.Generated
/-!
# C06 — Badger raft log honours the raft storage contract, per group, across reopen

This file: the key layout (injectivity, prefix disjointness), group isolation on the shared
database, and the refinement of the per-group store model (`Model/Wal.lean`, which the `wal`
engine ties to the real `badgerWAL` *and* whose specification `Mem` it ties to etcd's real
`MemoryStorage`, transcript-exact) to that specification:

* `store_refines_memorystorage` — for every history of legal calls (batches of consecutive entries
  with a hard state, local snapshot + compaction, installation of a received snapshot, reopen of
  the database) that `MemoryStorage`
  accepts from its initial state, the Badger-backed store accepts it, keeps its representation
  invariant `WF` (consecutive keys, dummy = snapshot entry, every cached value equal to what a
  scan returns) and stands for exactly the `MemoryStorage` state (`abs`);
* `reads_agree` — in every such state `FirstIndex`, `LastIndex`, `Term i` (value and error class),
  `Snapshot` and the hard state are what `MemoryStorage` answers;
* `reopen_changes_nothing` — dropping all caches (`NewBadgerWAL` over the same database) changes
  neither the abstract state nor the invariant.

* `entries_agree` — in every such state, for every window `first ≤ lo < hi ≤ last + 1` and every
  size limit, `Entries` returns exactly the list `MemoryStorage.Entries` returns (the single-key
  read for a window of one, the prefix scan cut at `hi` and at the size limit otherwise), and at or
  below the compacted prefix both refuse with `ErrCompacted`;
* `delete_group_leaves_nothing` — `DeleteGroup` leaves none of the group's keys and a reopen
  afterwards is a fresh store (with `isolation_batch`: and touches no other group's keys).

* `store_refines_memorystorage_any_start` — the same refinement for histories whose batches may
  start below the first index (entries compacted away meanwhile): the store drops what
  `MemoryStorage.Append` drops.

* `store_refines_memorystorage_every_save` — the same again for histories that also contain a
  `Save` carrying a received snapshot *and* the entries that follow it (one `Ready` of etcd/raft can
  hold both): it equals the save of the snapshot followed by the save of the entries (`save_seq`),
  and refines `ApplySnapshot`, `Append`, `SetHardState`.

Every call shape etcd/raft's `Ready` loop can produce is covered by a theorem; shapes it cannot
produce (a snapshot with entries that do not start right after it, a batch that leaves a gap) are
exercised by the `wal` engine only, where `MemoryStorage` itself panics or misbehaves.
-/
namespace Anndb.C06
open Anndb.Wal Anndb.WalKeys Anndb.Codec

theorem entryKey_inj (g g' : Key) (i j : Nat) (hg : g.length = 16) (hg' : g'.length = 16)
    (hi : i < 256 ^ 8) (hj : j < 256 ^ 8) (h : entryKey g i = entryKey g' j) : g = g' ∧ i = j := by
  unfold entryKey at h
  have h1 := List.append_inj h (by rw [hg, hg'])
  exact ⟨h1.1, beBytes_inj 8 i j hi hj h1.2⟩

/-- the three kinds of key never collide: lengths 24 / 18, and "hs" ≠ "ss" -/
theorem kinds_disjoint (g g' : Key) (i : Nat) (hg : g.length = 16) (hg' : g'.length = 16) :
    entryKey g i ≠ hsKey g' ∧ entryKey g i ≠ ssKey g' ∧ hsKey g ≠ ssKey g' := by
  refine ⟨?_, ?_, ?_⟩
  · intro h
    have := congrArg List.length h
    simp [entryKey, hsKey, beBytes_length, hg, hg'] at this
  · intro h
    have := congrArg List.length h
    simp [entryKey, ssKey, beBytes_length, hg, hg'] at this
  · intro h
    simp [hsKey, ssKey] at h

theorem hsKey_inj (g g' : Key) (h : hsKey g = hsKey g') : g = g' := by
  simpa [hsKey] using h

theorem ssKey_inj (g g' : Key) (h : ssKey g = ssKey g') : g = g' := by
  simpa [ssKey] using h

/-- **prefix iteration stays inside the group** -/
theorem entry_prefix_disjoint (g g' : Key) (i : Nat) (hg : g.length = 16) (hg' : g'.length = 16)
    (hne : g ≠ g') : ¬ g <+: entryKey g' i := by
  intro ⟨t, ht⟩
  unfold entryKey at ht
  have := (List.append_inj ht (by rw [hg, hg'])).1
  exact hne this

/-- a hard-state or snapshot key of *any* group has this group's id as a prefix only at the
excluded point: the id starts with the bytes "hs" (resp. "ss") followed by the first 14 bytes of
the other id. Random (v4) partition ids hit it with probability 2^-128; the zero group's id is
all zero bytes. The hypothesis is stated so that the excluded point is visible. -/
theorem meta_prefix_disjoint (g g' : Key) (hg : g.length = 16) (hg' : g'.length = 16)
    (hhs : g.take 2 ≠ [104, 115]) (hss : g.take 2 ≠ [115, 115]) :
    ¬ g <+: hsKey g' ∧ ¬ g <+: ssKey g' := by
  have key : ∀ p : Key, p.length = 2 → g.take 2 ≠ p → ¬ g <+: p ++ g' := fun p hp hne ⟨t, ht⟩ => hne (by
    have := congrArg (List.take 2) ht
    rwa [List.take_append_of_le_length (hg ▸ (by decide : 2 ≤ 16)), List.take_left' hp] at this)
  exact ⟨key _ rfl hhs, key _ rfl hss⟩

def opKey (g : Key) : BOp → Key
  | .setEntry e => entryKey g e.index
  | .delEntry i => entryKey g i
  | .setHS _ => hsKey g
  | .setSS _ => ssKey g

theorem applyOp_other (g : Key) (db : Db) (op : BOp) (k : Key) (hk : k ≠ opKey g op) : applyOp g db op k = db k := by
  cases op <;> exact if_neg hk

/-- the group id inside a key: the first 16 bytes of an entry key (24 bytes), what follows the two
prefix bytes of a hard-state or snapshot key (18 bytes) -/
def owner (k : Key) : Key := if k.length = 24 then k.take 16 else k.drop 2

theorem owner_entryKey (g : Key) (i : Nat) (hg : g.length = 16) : owner (entryKey g i) = g := by
  simp [owner, entryKey, beBytes_length, hg]

theorem owner_hsKey (g : Key) (hg : g.length = 16) : owner (hsKey g) = g := by
  simp [owner, hsKey, hg]

theorem owner_ssKey (g : Key) (hg : g.length = 16) : owner (ssKey g) = g := by
  simp [owner, ssKey, hg]

theorem owner_opKey (g : Key) (op : BOp) (hg : g.length = 16) : owner (opKey g op) = g := by
  cases op <;> simp only [opKey, owner_entryKey, owner_hsKey, owner_ssKey, hg]

/-- **Group isolation, one batch operation**: the one key touched is owned by `g` -/
theorem isolation_op (g g' : Key) (hg : g.length = 16) (hg' : g'.length = 16) (hne : g ≠ g')
    (db : Db) (op : BOp) (i : Nat) :
    entryAt g' (applyOp g db op) i = entryAt g' db i ∧
    hsOf g' (applyOp g db op) = hsOf g' db ∧ ssOf g' (applyOp g db op) = ssOf g' db := by
  have other : ∀ k, owner k = g' → applyOp g db op k = db k := fun k hk =>
    applyOp_other g db op k fun h => hne (by rw [← owner_opKey g op hg, ← h, hk])
  exact ⟨other _ (owner_entryKey g' i hg'), other _ (owner_hsKey g' hg'), other _ (owner_ssKey g' hg')⟩

/-- **Group isolation, any batch**: a whole `WriteBatch` of group `g` (what `Save`,
`CreateSnapshot`, `reset` and `DeleteGroup` flush) leaves every other group's keys untouched. -/
theorem isolation_batch (g g' : Key) (hg : g.length = 16) (hg' : g'.length = 16) (hne : g ≠ g')
    (ops : List BOp) (db : Db) (i : Nat) (hi : i < 256 ^ 8)
    (hops : ∀ op ∈ ops, (∀ e, op = .setEntry e → e.index < 256 ^ 8) ∧ (∀ j, op = .delEntry j → j < 256 ^ 8)) :
    entryAt g' (ops.foldl (applyOp g) db) i = entryAt g' db i ∧
    hsOf g' (ops.foldl (applyOp g) db) = hsOf g' db ∧ ssOf g' (ops.foldl (applyOp g) db) = ssOf g' db := by
  refine List.foldlRecOn (motive := fun d => entryAt g' d i = entryAt g' db i ∧ hsOf g' d = hsOf g' db ∧
    ssOf g' d = ssOf g' db) ops (applyOp g) ⟨rfl, rfl, rfl⟩ fun d ⟨a, b, c⟩ op _ => ?_
  obtain ⟨a', b', c'⟩ := isolation_op g g' hg hg' hne d op i
  exact ⟨a'.trans a, b'.trans b, c'.trans c⟩

/-! ## refinement -/

theorem store_refines_memorystorage (ops : List WOp)
    (hes : ∀ hs es, WOp.append hs es ∈ ops → Contig es) (m' : Mem)
    (hm : runM Mem.init ops = some m') :
    ∃ w', runW Wal.fresh ops = some w' ∧ WF w' ∧ abs w' = m' :=
  run_refines ops Wal.fresh Mem.init m' wf_fresh.1 wf_fresh.2 hes hm

theorem store_refines_memorystorage_any_start (ops : List WOp)
    (hes : ∀ hs es, WOp.append hs es ∈ ops → Contig es) (m' : Mem)
    (hm : runMA Mem.init ops = some m') :
    ∃ w', runW Wal.fresh ops = some w' ∧ WF w' ∧ abs w' = m' :=
  run_refines_any_start ops Wal.fresh Mem.init m' wf_fresh.1 wf_fresh.2 hes hm

theorem store_refines_memorystorage_every_save (ops : List WOpX)
    (hes : ∀ op ∈ ops, Contig op.batch) (m' : Mem) (hm : runMX Mem.init ops = some m') :
    ∃ w', runWX Wal.fresh ops = some w' ∧ WF w' ∧ abs w' = m' :=
  run_refines_x ops Wal.fresh Mem.init m' wf_fresh.1 wf_fresh.2 hes hm

theorem reads_agree (w : Wal) (h : WF w) (i : Nat) :
    (∃ w', w.firstIndex = .ok ((abs w).firstIndex, w') ∧ w'.disk = w.disk ∧ WF w') ∧
    w.lastIndex = .ok (abs w).lastIndex ∧
    (w.term i).map (·.1) = (abs w).term i ∧
    w.snapshot = (abs w).snap ∧ w.hardState = (abs w).hs :=
  ⟨firstIndex_refines w h, lastIndex_refines w h, term_refines w h i, snapshot_refines w h, rfl⟩

theorem entries_agree (w : Wal) (h : WF w) (lo hi maxSize : Nat)
    (hlo : (abs w).firstIndex ≤ lo) (hlt : lo < hi) (hhi : hi ≤ (abs w).lastIndex + 1) :
    ∃ es w', w.entries lo hi maxSize = .ok (es, w') ∧ (abs w).entries lo hi maxSize = .ok es
      ∧ w'.disk = w.disk ∧ WF w' := ⟨_, entries_refines w h lo hi maxSize hlo hlt hhi⟩

theorem entries_below_first_refused (w : Wal) (h : WF w) (lo hi maxSize : Nat) (hlo : lo < (abs w).firstIndex) :
    w.entries lo hi maxSize = .error .compacted ∧ (abs w).entries lo hi maxSize = .error .compacted :=
  entries_compacted w h lo hi maxSize hlo

/-- **C06 (a size-limited read steps over nothing).** What `Entries(lo, hi, maxSize)` returns is a
non-empty run of the stored log starting at `lo`: a follower that catches up from these reads is sent
no log with a hole (seeded C03-F skipped an entry that did not fit and went on). -/
theorem limited_read_is_a_run_from_lo (w : Wal) (h : WF w) (lo hi maxSize : Nat)
    (hlo : (abs w).firstIndex ≤ lo) (hlt : lo < hi) (hhi : hi ≤ (abs w).lastIndex + 1) :
    ∃ es w', w.entries lo hi maxSize = .ok (es, w') ∧
      es <+: (((abs w).ents.drop (lo - (abs w).offset)).take (hi - lo)) ∧ es ≠ [] := by
  obtain ⟨w', h1, -⟩ := entries_refines w h lo hi maxSize hlo hlt hhi
  refine ⟨_, w', h1, Mem.limitSize_prefix _ _, Mem.limitSize_ne_nil _ _ fun hnil => ?_⟩
  -- an empty window would have no length or start beyond the log
  rcases List.take_eq_nil_iff.mp hnil with h0 | hd
  · exact Nat.sub_ne_zero_of_lt hlt h0
  · rw [List.drop_eq_nil_iff, h.offset, abs_ents, absEnts_length] at hd
    exact Nat.not_le.mpr (h.window_start hlo hlt hhi) hd

/-- the loop the theorem above is about is the loop in the code (regenerated from `getEntries`) -/
theorem scan_loop_in_code : Generated.walScanStopsAtTheLimit = true := by decide

/-- a compaction leaves no key below the snapshot index behind, however many there are (regenerated from
`deleteEntriesUntilIndex`; the model's compaction drops them all — seeded C04-F / C06-F bounded the number) -/
theorem compaction_removes_every_key_below : Generated.walCompactionRemovesEveryKeyBelow = true := by decide

theorem delete_group_leaves_nothing (w : Wal) :
    (Wal.deleteGroup w).disk = ⟨[], none, none⟩ ∧ Wal.open_ (Wal.deleteGroup w).disk = Wal.fresh :=
  ⟨deleteGroup_erases w, open_after_deleteGroup w⟩

theorem reopen_changes_nothing (w : Wal) (h : WF w) :
    WF (Wal.open_ w.disk) ∧ abs (Wal.open_ w.disk) = abs w := reopen_refines w h

/-- non-vacuity: a history with an overwrite of an uncommitted tail, a compaction, a reopen and a
further batch is legal for the specification -/
def demoHistory : List WOp :=
  [.append ⟨1, 1, 0⟩ [⟨1, 1, 10, 1⟩, ⟨2, 1, 11, 1⟩, ⟨3, 1, 12, 1⟩],
   .append ⟨2, 2, 1⟩ [⟨3, 2, 13, 1⟩, ⟨4, 2, 14, 1⟩],
   .compact 2 7 99, .reopen,
   .append ⟨2, 2, 4⟩ [⟨5, 2, 15, 1⟩],
   .install ⟨3, 0, 9⟩ ⟨9, 3, 5, 7⟩, .reopen,
   .append ⟨3, 0, 9⟩ [⟨10, 3, 16, 1⟩]]

example : (runM Mem.init demoHistory).map (fun m => (m.firstIndex, m.lastIndex, m.snap.index)) = some (10, 10, 9) := by
  decide

example : (runW Wal.fresh demoHistory).map (fun w => w.disk.ents.map (·.index)) = some [9, 10] := by
  decide

/-- non-vacuity of `entries_agree`: a store holding entries 10..13 of sizes 1, 4, 4, 1; the window
[11, 14) under a limit of 6 is cut after entry 11 (1 + 4 + 4 > 6 … the scan stops at 12), a
limit of 0 still yields one entry -/
def demoReads : List WOp := demoHistory ++ [.append ⟨3, 0, 9⟩ [⟨11, 3, 17, 4⟩, ⟨12, 3, 18, 4⟩, ⟨13, 3, 19, 1⟩]]

example : (runW Wal.fresh demoReads).map (fun w =>
      ((w.entries 10 14 6).toOption.map (·.1.map (·.index)), (w.entries 11 14 0).toOption.map (·.1.map (·.index)),
       (w.entries 11 14 100).toOption.map (·.1.map (·.index)), (w.entries 12 13 0).toOption.map (·.1.map (·.index))))
    = some (some [10, 11], some [11], some [11, 12, 13], some [12]) := by decide

example : (runM Mem.init demoReads).map (fun m =>
      ((m.entries 10 14 6).toOption.map (·.map (·.index)), (m.entries 11 14 0).toOption.map (·.map (·.index))))
    = some (some [10, 11], some [11]) := by decide

/-- non-vacuity of `store_refines_memorystorage_any_start`: after the compaction at 2 a batch 1..4
arrives (entries 1 and 2 are gone: dropped), and later a batch 1..2 (entirely below: skipped) -/
def demoBelow : List WOp :=
  [.append ⟨1, 1, 0⟩ [⟨1, 1, 10, 1⟩, ⟨2, 1, 11, 1⟩, ⟨3, 1, 12, 1⟩],
   .compact 2 7 99,
   .append ⟨2, 2, 1⟩ [⟨1, 1, 10, 1⟩, ⟨2, 1, 11, 1⟩, ⟨3, 2, 13, 1⟩, ⟨4, 2, 14, 1⟩],
   .append ⟨2, 2, 4⟩ [⟨1, 1, 10, 1⟩, ⟨2, 1, 11, 1⟩]]

example : (runMA Mem.init demoBelow).map (fun m => (m.firstIndex, m.lastIndex, m.ents.map (·.term))) = some (3, 4, [1, 2, 2]) := by
  decide
example : runM Mem.init demoBelow = none := by decide
example : (runW Wal.fresh demoBelow).map (fun w => w.disk.ents.map (fun e => (e.index, e.term))) = some [(2, 1), (3, 2), (4, 2)] := by
  decide

/-- non-vacuity of `store_refines_memorystorage_every_save`: a follower with entries 1..3 receives
snapshot 9 together with entries 10, 11, reopens, appends 12 -/
def demoBoth : List WOpX :=
  [.base (.append ⟨1, 1, 0⟩ [⟨1, 1, 10, 1⟩, ⟨2, 1, 11, 1⟩, ⟨3, 1, 12, 1⟩]),
   .installWith ⟨3, 0, 9⟩ ⟨9, 3, 5, 7⟩ [⟨10, 3, 16, 1⟩, ⟨11, 3, 17, 1⟩],
   .base .reopen,
   .base (.append ⟨3, 0, 11⟩ [⟨12, 3, 18, 1⟩])]

example : (runMX Mem.init demoBoth).map (fun m => (m.firstIndex, m.lastIndex, m.snap.index, m.hs.commit)) = some (10, 12, 9, 11) := by
  decide
example : (runWX Wal.fresh demoBoth).map (fun w => w.disk.ents.map (·.index)) = some [9, 10, 11, 12] := by
  decide

/-- the key layout in the code is the one modelled (regenerated facts) -/
theorem key_layout_in_code :
    Generated.walEntryKeyLen = 24 ∧ Generated.walMetaKeyLen = 18 ∧
    Generated.walHardStatePrefix = "hs" ∧ Generated.walSnapshotPrefix = "ss" ∧
    Generated.walIndexBigEndian = true := by decide

/-- non-vacuity: two neighbouring 16-byte ids -/
example : entryKey (List.replicate 16 7) 300 ≠ entryKey (List.replicate 15 7 ++ [6]) 300 := by decide

end Anndb.C06
