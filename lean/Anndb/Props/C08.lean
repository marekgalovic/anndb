import Anndb.Proofs.CodecLemmas
import Anndb.Props.C02
import Anndb.Generated
/-!
# C08 — Index snapshots round-trip exactly for every reachable state and any reader

Model: `Anndb/Model/Codec.lean` — the byte format of `Hnsw.Save` / `Hnsw.Load`
(`index/hnsw_persistence.go`, `index/metadata.go`, `math/vector.go`, `index/config.go`):
big-endian fixed-width fields, 16-byte ids, `int32` level, raw `float32` words, metadata with
`u16` count / `u8` key length / `u16` value length, 16 × (count, vertex records), then edge
records grouped by shard, each level from the top down as (live-link count, (id, score) pairs);
the empty index is the empty stream; optionally a 33-byte header.

`File` is exactly what is written; `File.wf` are the explicit bounds under which the length
fields do not truncate. The `codec` engine checks on every run that the real `Save` output of
reached states decodes under this model to the dumped state, re-encodes to the same bytes, and
that the model's re-encodings load back (through fragmenting readers, into fresh and used
indexes) to the same state.
-/
namespace Anndb.C08
open Anndb.Codec

theorem encode_some_ne_nil (f : File) : encode (some f) ≠ [] := by
  intro h
  have := congrArg List.length h
  simp [encode, beBytes_length] at this

/-- **Round trip with exact consumption (non-empty index)**: decoding what was written, followed
by any other bytes, yields exactly the records written and leaves exactly the other bytes. -/
theorem roundtrip_nonempty (dim : Nat) (f : File) (h : f.wf dim) (rest : Bytes) :
    decode dim (encode (some f) ++ rest) = some (some f, rest) := by
  obtain ⟨h1, h2, h3, h4⟩ := h
  have hs := Reads.decMany fun sh hsh => decShard_reads dim sh (h3 sh hsh).1 (h3 sh hsh).2
  rw [h2] at hs
  suffices Reads (decode dim) (encode (some f)) (some f) from this rest
  refine .ite_neg (fun rest he => encode_some_ne_nil f (List.append_eq_nil_iff.mp (List.isEmpty_iff.mp he)).1) ?_
  rw [encode, List.append_assoc]
  exact .bind (.readBE h1) (.bind hs (.bind_pure (decEdgeGroups_reads f.shards f.edges h4) fun _ => rfl))

/-- **Round trip, every state** (the empty index is the empty stream): loading its own output
never fails and consumes all of it. -/
theorem roundtrip (dim : Nat) (f : Option File) (h : ∀ g, f = some g → g.wf dim) :
    decode dim (encode f) = some (f, []) := by
  cases f with
  | none => rfl
  | some g => simpa using roundtrip_nonempty dim g (h g rfl) []

def Header.wf (h : Header) : Prop :=
  h.algo < 256 ^ 4 ∧ h.levelMult < 256 ^ 4 ∧ h.ef < 256 ^ 4 ∧ h.efC < 256 ^ 4 ∧ h.m < 256 ^ 4 ∧
  h.mMax < 256 ^ 4 ∧ h.mMax0 < 256 ^ 4 ∧ h.dim < 256 ^ 4 ∧ h.space < 256

theorem header_reads (h : Header) (hw : Header.wf h) : Reads decHeader (encHeader h) h := by
  obtain ⟨h1, h2, h3, h4, h5, h6, h7, h8, h9⟩ := hw
  unfold encHeader
  simp only [List.append_assoc]
  exact .bind (.readBE h1) (.bind (.readBE h2) (.bind (.readBE h3) (.bind (.readBE h4) (.bind (.readBE h5)
    (.bind (.readBE h6) (.bind (.readBE h7) (.bind (.readBE h8) (.bind_pure (.readBE h9) fun _ => rfl))))))))

/-- **Round trip with header**: the header decides the dimension used for the rest -/
theorem roundtrip_with_header (h : Header) (hw : Header.wf h) (f : Option File)
    (hf : ∀ g, f = some g → g.wf h.dim) :
    decodeH (encodeH h f) = some (h, f, []) := by
  simp [decodeH, encodeH, header_reads h hw (encode f), roundtrip h.dim f hf]

/-! ### memory proportional to the input -/

/-- **The vertex count read from the stream never exceeds the bytes that follow it**: a shard
that decodes successfully had at most as many vertices as input bytes — so the map and the
records `Load` allocates for a shard are bounded by the input length, not by the number read. -/
theorem shard_count_bounded (dim : Nat) (bs : Bytes) (sh : List VRec) (rest : Bytes)
    (h : decShard dim bs = some (sh, rest)) : sh.length + 4 ≤ bs.length := by
  obtain ⟨⟨n, b1⟩, h1, h2⟩ := Option.bind_eq_some_iff.mp h
  have := Consumes.readBE 4 bs n b1 h1
  -- one byte per record is all this bound needs
  have := Consumes.decMany ((decV_consumes dim).mono (m := 1) (by omega)) n b1 sh rest h2
  have := decMany_length h2
  omega

/-! ### any reader: fragmentation cannot matter -/

/-- `Load`, `Metadata.load`, `Vector.Load` and `hnswConfig.load` read only through
`io.ReadFull` / `binary.Read` (which itself uses `io.ReadFull`): no bare `Read` call whose
short count could be ignored (regenerated from the four files on every run). Under that
fact the bytes a `Load` sees are the concatenation of the chunks, which is what `decode`
consumes — so decoding is independent of how the reader fragments the stream. -/
theorem no_bare_reads : Generated.codecBareReads = [] := by decide

/-- the widths of the length fields are the ones the model uses (regenerated) -/
theorem length_field_widths :
    Generated.codecMetadataCountType = "uint16" ∧ Generated.codecKeyLenType = "uint8" ∧
    Generated.codecValLenType = "uint16" := ⟨rfl, rfl, rfl⟩

/-! ### loading into a used index

`Hnsw.Load` works on the receiver: what is left of the old contents depends on which fields it
clears before reading. `loadInto rs old f` is the index state after `Load` of the stream of `f`
(`none` = the empty stream, where `Load` returns right after the resets) into an index in state
`old`, when exactly the fields named in `rs` are cleared first; the vertex loop replaces shard `i`
and adds to `len` / `bytesSize`, as the code does. -/

structure IdxState where
  len : Nat
  bytes : Nat
  entry : Option Nat
  shards : List (List VRec)
deriving DecidableEq, Repr

def IdxState.empty : IdxState := ⟨0, 0, none, List.replicate 16 []⟩

def vbytes (v : VRec) : Nat := 16 + 4 * v.vec.length + (v.md.map fun kv => kv.key.length + kv.val.length).sum

def loadInto (rs : List String) (old : IdxState) : Option File → IdxState
  | none =>
    { len := if "len" ∈ rs then 0 else old.len,
      bytes := if "bytesSize" ∈ rs then 0 else old.bytes,
      entry := if "entrypoint" ∈ rs then none else old.entry,
      shards := if "vertices" ∈ rs then List.replicate 16 [] else old.shards }
  | some f =>
    { len := (if "len" ∈ rs then 0 else old.len) + (f.shards.map List.length).sum,
      bytes := (if "bytesSize" ∈ rs then 0 else old.bytes) + ((f.shards.map fun sh => (sh.map vbytes).sum).sum),
      entry := some f.entry,
      shards := f.shards }

/-- **nothing stale**: with the resets the code performs on this run (regenerated), loading any
stream into any used index gives exactly the state that loading it into a brand-new index gives —
no stale item, no stale counter, no stale entry point; for the empty stream that state is the
empty index -/
theorem load_into_used_is_load_into_fresh (old : IdxState) (f : Option File) :
    loadInto Generated.hnswLoadResets old f = loadInto Generated.hnswLoadResets IdxState.empty f := by
  cases f <;> simp [loadInto, Generated.hnswLoadResets]

theorem load_empty_stream_empties (old : IdxState) :
    loadInto Generated.hnswLoadResets old none = IdxState.empty := by
  simp [loadInto, Generated.hnswLoadResets, IdxState.empty]

/-- without the shard reset, the empty stream loaded into a used index keeps its items (the shape
of seeded change C08-A and of defect D5) -/
theorem no_shard_reset_keeps_stale_items :
    let old : IdxState := ⟨1, 24, some 7, [[⟨7, 0, [0, 0], []⟩]] ++ List.replicate 15 []⟩
    (loadInto ["len", "bytesSize", "entrypoint"] old none).shards ≠ IdxState.empty.shards := by decide

/-! ### every reachable state's metadata fits the format

`File.wf` bounds the metadata of every vertex record by the width of the length fields. Since the
repair of D5 that is no assumption about the saved state: the partition refuses metadata that does
not fit (`Metadata.Validate`, model `mdFits`), so every item a partition can hold satisfies the
bound (`C02.reachable_metadata_fits`, with `C02.partition_refines_map` for "the index holds what
the specification holds"). -/

/-- a stored item's metadata as the codec writes it: the UTF-8 bytes of key and value -/
def kvOf (kv : String × String) : KV :=
  ⟨kv.1.toUTF8.data.toList.map (·.toNat), kv.2.toUTF8.data.toList.map (·.toNat)⟩

theorem metadata_wf_of_fits (md : Meta) (h : mdFits md = true) :
    (md.map kvOf).length < 65536 ∧ ∀ kv ∈ md.map kvOf, kv.wf := by
  simp only [mdFits, Bool.and_eq_true, decide_eq_true_eq, List.all_eq_true] at h
  refine ⟨by rw [List.length_map]; exact Nat.lt_succ_of_le h.1, ?_⟩
  simp only [List.forall_mem_map, KV.wf, kvOf, List.length_map, Array.length_toList, ByteArray.size_data,
    String.toUTF8_eq_toByteArray, String.size_toByteArray]
  exact fun x hx => ⟨Nat.lt_succ_of_le (h.2 x hx).1, Nat.lt_succ_of_le (h.2 x hx).2⟩

/-- **the metadata clause of `File.wf` holds in every reachable partition state** -/
theorem reachable_metadata_wf (log : List Change) (i : ItemId) (it : SItem)
    (h : (Spec.empty.runLog log).1.get i = some it) :
    (it.md.map kvOf).length < 65536 ∧ ∀ kv ∈ it.md.map kvOf, kv.wf :=
  metadata_wf_of_fits it.md (C02.reachable_metadata_fits log i it h)

/-- the repair is in the code on this run: `Hnsw.Insert` validates first, both update paths validate
the merged metadata before the old item is removed, and the limits are the format's (regenerated) -/
theorem metadata_validated_in_code :
    Generated.metadataValidatedOnInsert = true ∧ Generated.metadataValidatedBeforeRemoveOnUpdate = true ∧
    Generated.metadataLimits = [65535, 255, 65535] := by decide

/-! ### non-vacuity -/

def sampleFile : File :=
  { entry := 7,
    shards := [[⟨7, 1, [1065353216, 0], [⟨[107], [118, 49]⟩]⟩], [⟨9, 0, [0, 1073741824], []⟩]] ++ List.replicate 14 [],
    edges := [[⟨7, [[], [(9, 1084227584)]]⟩], [⟨9, [[(7, 1084227584)]]⟩]] ++ List.replicate 14 [] }

theorem sampleFile_wf : sampleFile.wf 2 := by decide

example : decode 2 (encode (some sampleFile) ++ [1, 2, 3]) = some (some sampleFile, [1, 2, 3]) :=
  roundtrip_nonempty 2 sampleFile sampleFile_wf [1, 2, 3]

/-- `Metadata.Validate` and the length fields `Save` writes agree on the unit: bytes (regenerated) -/
theorem metadata_limits_are_byte_lengths : Generated.metadataLimitsAreByteLengths = true := by decide

end Anndb.C08
