import Anndb.Proofs.HnswInv
import Anndb.Generated
import Anndb.Proofs.HeapLawful
import Anndb.Model.ListPQ
/-!
# C01 — Search returns only live items with true scores, sorted, unique, at most k, non-empty

Model: `Anndb/Model/Hnsw.lean`, line by line after `index/hnsw.go` (`Insert`, `Remove` with the
entry-point hand-over, `pruneNeighbors`, both neighbour-selection modes, `searchLevel`,
`Search`) and `Index.reload` (the effect of `Save` + `Load` on the graph). The `hnsw` engine
checks on every run that the real index and this model produce the identical graph and the
identical search results, operation by operation, in the order-independent regime.

Every theorem below quantifies over: all priority-queue implementations satisfying `Lawful`
(and is instantiated at the model of the repo's own queue, proved lawful for C19), all distance
functions `dist` (so all three metrics — none of the clauses needs a metric axiom), all
configurations `cfg` (M, Mmax, Mmax0, ef, efConstruction, both selection modes, extension,
keep-pruned), all link orders (the states are arbitrary states satisfying the invariant), all
operation histories of any length, all queries and all k.
-/
namespace Anndb.C01

section
variable {Pmin Pmax : PQImpl} {dist : VecRef → VecRef → Score} (cfg : Cfg)
variable (hmin : Lawful Pmin minBetter) (hmax : Lawful Pmax maxBetter)

/-- the representation invariant of an index: `Inv` is what `search` needs, `Alloc` the allocation
discipline that makes `Inv` inductive -/
def Good (s : Index) : Prop := Inv s ∧ Alloc s

/-- `update` of the partition layer is `remove` followed by `insert` with the old level, so it needs
no case of its own. `pick` resolves the one residual choice of `Remove` ("any stored vertex" when
the removed entry point has no live neighbour). -/
inductive Op where
  | insert (id : ItemId) (vec : VecRef) (md : Meta) (level : Nat)
  | remove (id : ItemId) (pick : List ItemId → Option ItemId)
  | reload
  /-- the snapshot of an *empty* index (no bytes) loaded into this one: a replica that is handed the
  snapshot of a partition emptied meanwhile -/
  | loadEmpty

def Op.ok : Op → Prop
  | .remove _ pick => PickOK pick
  | _ => True

def stepOp (s : Index) : Op → Index
  | .insert id vec md level =>
    match insert Pmin Pmax dist cfg s id vec md level with
    | .ok s' => s'
    | .error _ => s
  | .remove id pick =>
    match remove Pmin Pmax dist cfg s id pick with
    | .ok s' => s'
    | .error _ => s
  | .reload => s.reload
  | .loadEmpty => Index.empty

def run (s : Index) : List Op → Index
  | [] => s
  | op :: ops => run (stepOp (Pmin := Pmin) (Pmax := Pmax) (dist := dist) cfg s op) ops

theorem good_empty : Good Index.empty := inv_empty

theorem good_reload (s : Index) (h : Good s) : Good s.reload :=
  ⟨h.1.of_frame (reload_frame s), h.2.of_frame (reload_frame s)⟩

/-- for every queue implementation, lawful or not: well-formedness does not depend on the queues -/
theorem good_step (s : Index) (op : Op) (hop : op.ok) (h : Good s) :
    Good (stepOp (Pmin := Pmin) (Pmax := Pmax) (dist := dist) cfg s op) := by
  fun_cases stepOp (Pmin := Pmin) (Pmax := Pmax) (dist := dist) cfg s op
  case case1 id vec md level s' hr => exact inv_insert cfg s id vec md level h.1 h.2 s' hr
  case case3 id pick s' hr => exact inv_remove cfg s id pick hop h.1 h.2 s' hr
  case case5 => exact good_reload s h
  case case6 => exact good_empty
  -- an insert or a remove that answers an error
  all_goals exact h

/-- **Invariant, every reachable state**: after any history the index is well formed. -/
theorem good_run (s : Index) (ops : List Op) (hops : ∀ op ∈ ops, op.ok) (h : Good s) :
    Good (run (Pmin := Pmin) (Pmax := Pmax) (dist := dist) cfg s ops) := by
  induction ops generalizing s with
  | nil => exact h
  | cons op ops ih =>
    exact ih _ (fun o ho => hops o (List.mem_cons_of_mem _ ho))
      (good_step cfg s op (hops op List.mem_cons_self) h)

/-- the statement of C01 for one search on state `s` -/
def SearchOK (s : Index) (q : VecRef) (k : Nat) (r : List Hit) : Prop :=
  (∀ h ∈ r, ∃ v x, s.live h.id = some v ∧ s.verts v = some x ∧ x.deleted = false ∧
      h.md = x.md ∧ h.score = dist q x.vec) ∧
  (r.map (·.score)).Pairwise (· ≤ ·) ∧
  (r.map (·.id)).Nodup ∧
  r.length ≤ k ∧
  ((∃ i v, s.live i = some v) → 1 ≤ k → r ≠ [])

include hmin hmax in
/-- **C01 on any well-formed state.** -/
theorem search_ok (s : Index) (h : Good s) (q : VecRef) (k : Nat) :
    SearchOK (dist := dist) s q k (search Pmin Pmax dist cfg s q k) :=
  search_sound cfg hmin hmax s q h.1 k

include hmin hmax in
/-- **C01 for every history**: whatever sequence of inserts, removes (hence updates) and
snapshot save+loads was applied to an empty index, every search answers with live items only,
each with its current metadata and a score equal to `dist` between the query and its current
vector, in ascending score order, no id twice, at most `k` items, and at least one item
whenever the index holds one and `k ≥ 1`. -/
theorem search_ok_reachable (ops : List Op) (hops : ∀ op ∈ ops, op.ok) (q : VecRef) (k : Nat) :
    let s := run (Pmin := Pmin) (Pmax := Pmax) (dist := dist) cfg Index.empty ops
    SearchOK (dist := dist) s q k (search Pmin Pmax dist cfg s q k) := by
  intro s
  exact search_ok cfg hmin hmax s (good_run cfg _ ops hops good_empty) q k

end

/-- C01 with the model of `utils.PriorityQueue` over `container/heap` as the queue -/
theorem search_ok_goheap (dist : VecRef → VecRef → Score) (cfg : Cfg) (ops : List Op)
    (hops : ∀ op ∈ ops, op.ok) (q : VecRef) (k : Nat) :
    let Pmin := goHeap ltMin ltMin_ok
    let Pmax := goHeap ltMax ltMax_ok
    let s := run (Pmin := Pmin) (Pmax := Pmax) (dist := dist) cfg Index.empty ops
    SearchOK (dist := dist) s q k (search Pmin Pmax dist cfg s q k) :=
  search_ok_reachable cfg goMinHeap_lawful goMaxHeap_lawful ops hops q k

/-- the resolver the driver uses ("the vertex the dump shows, if it is stored, else the first
stored id") is well behaved -/
theorem pick_observed_ok (a : Option ItemId) :
    PickOK (fun ids => match a with
      | some a => if a ∈ ids then some a else ids.head?
      | none => ids.head?) := by
  cases a with
  | none => exact pickOK_head?
  | some a =>
    constructor
    · intro l i h
      simp only at h
      split at h
      · cases h; assumption
      · exact pickOK_head?.1 l i h
    · intro l h
      simp only at h
      split at h
      · cases h
      · exact pickOK_head?.2 l h

/-! ### Non-vacuity: a concrete history reaches a non-empty well-formed state -/

example : Good (run (Pmin := listPQ minLe) (Pmax := listPQ maxLe) (dist := fun a b => a + b)
    ⟨2, 2, 4, 20, 200, false, false, true⟩ Index.empty
    [.insert 1 10 [] 0, .insert 2 20 [("a", "1")] 1, .remove 1 (fun ids => ids.head?), .reload]) := by
  apply good_run _ _ _ _ good_empty
  intro op hop
  simp only [List.mem_cons, List.not_mem_nil, or_false] at hop
  rcases hop with rfl | rfl | rfl | rfl <;> try trivial
  exact pickOK_head?


/-- **searches share nothing they write** (regenerated from `index/hnsw.go`): in the read path of the
index — `Search`, `greedyClosestNeighbor`, `searchLevel`, `selectNeighbors*` — every assignment goes to
a local variable (or into a local map / slice) and nothing is called but read-only accessors and the
search's own local queues. Hence what the theorems of this file say about one search holds for each
of any number of simultaneous searches on an index nobody writes (seeded changes C01-D / C07-D keep
the visited marks on the vertices: simultaneous searches then return an id twice). -/
theorem search_path_writes_nothing_shared : Generated.searchPathWritesNothingShared = true := by decide

end Anndb.C01
