import Anndb.Proofs.PartitionRefine
import Anndb.Model.ListPQ
import Anndb.Props.C03
import Anndb.Generated
/-!
# C04 — Replicas applying the same log hold identical contents; snapshot equals replay

Model: `process` (C02) and `Index.reload` (the effect of snapshot `Save` + `Load`; the
byte-level codec is C08). A *replica* is any implementation state related to the specification
by `Refines` — whatever its link lists look like (Go map iteration order, heap tie-breaking and
the entry-point fallback are all free: they are universally quantified here as the queue
implementations, the distance function, the `pick` resolver and the state itself).
-/
namespace Anndb.C04

section
variable {Pmin Pmax Pmin' Pmax' : PQImpl} {dist dist' : VecRef → VecRef → Score} (cfg cfg' : Cfg) (dim : Nat)
variable (pick pick' : List ItemId → Option ItemId)

/-- **Two replicas, one entry**: replicas that agree with the same map before an entry report
the same outcome for it and agree with the same map afterwards — even if they differ in
queue implementation, metric, index parameters, fallback choice and graph. Outcomes are a
function of the map alone. -/
theorem replicas_agree_step (hp : PickOK pick) (hp' : PickOK pick')
    (p p' : PState) (sp : Spec) (h : Refines dim p sp) (h' : Refines dim p' sp) (c : Change) :
    let r := process Pmin Pmax dist cfg dim pick p c
    let r' := process Pmin' Pmax' dist' cfg' dim pick' p' c
    r.2 = r'.2 ∧ (∀ i, absI r.1.idx i = absI r'.1.idx i) ∧ r.1.len = r'.1.len ∧ r.1.bytes = r'.1.bytes ∧
    Refines dim r.1 (sp.step c).1 ∧ Refines dim r'.1 (sp.step c).1 := by
  intro r r'
  obtain ⟨h1, h2⟩ := refines_process Pmin Pmax dist cfg dim pick hp h c
  obtain ⟨h1', h2'⟩ := refines_process Pmin' Pmax' dist' cfg' dim pick' hp' h' c
  exact ⟨h2.trans h2'.symm, (h1.agree h1').1, (h1.agree h1').2.1, (h1.agree h1').2.2, h1, h1'⟩

/-- **Two replicas, any log**: same outcomes for every entry, same contents and counters at the end. -/
theorem replicas_agree (hp : PickOK pick) (hp' : PickOK pick')
    (p p' : PState) (sp : Spec) (h : Refines dim p sp) (h' : Refines dim p' sp) (log : List Change) :
    let r := runLog (Pmin := Pmin) (Pmax := Pmax) (dist := dist) cfg dim pick p log
    let r' := runLog (Pmin := Pmin') (Pmax := Pmax') (dist := dist') cfg' dim pick' p' log
    r.2 = r'.2 ∧ (∀ i, absI r.1.idx i = absI r'.1.idx i) ∧ r.1.len = r'.1.len ∧ r.1.bytes = r'.1.bytes := by
  intro r r'
  obtain ⟨h1, h2⟩ := refines_runLog Pmin Pmax dist cfg dim pick hp h log
  obtain ⟨h1', h2'⟩ := refines_runLog Pmin' Pmax' dist' cfg' dim pick' hp' h' log
  exact ⟨h2.trans h2'.symm, h1.agree h1'⟩

/-- every outcome equals what a sequential map reports -/
theorem outcomes_are_the_maps (hp : PickOK pick) (log : List Change) :
    (runLog (Pmin := Pmin) (Pmax := Pmax) (dist := dist) cfg dim pick PState.empty log).2
      = (Spec.empty.runLog log).2 :=
  (refines_runLog Pmin Pmax dist cfg dim pick hp (refines_empty dim) log).2

theorem spec_runLog_append (s : Spec) (a b : List Change) :
    (s.runLog (a ++ b)).1 = ((s.runLog a).1.runLog b).1 ∧
    (s.runLog (a ++ b)).2 = (s.runLog a).2 ++ ((s.runLog a).1.runLog b).2 := by
  induction a generalizing s with
  | nil => exact ⟨rfl, rfl⟩
  | cons c cs ih =>
    obtain ⟨h1, h2⟩ := ih (s.step c).1
    exact ⟨h1, by show _ :: ((s.step c).1.runLog (cs ++ b)).2 = _ :: _ ++ _; rw [h2]; rfl⟩

/-- **Snapshot equals replay, at every cut**: a replica that applied `pre`, was snapshotted,
had the snapshot installed (on itself or on any other replica — the result of `Load` is the
same state), and then applied `suf`, reports for `suf` exactly the outcomes of a replica that
applied `pre ++ suf` without interruption, and ends with the same contents and counters. -/
theorem snapshot_cut (hp : PickOK pick) (hp' : PickOK pick') (pre suf : List Change) :
    let full := runLog (Pmin := Pmin) (Pmax := Pmax) (dist := dist) cfg dim pick PState.empty (pre ++ suf)
    let atCut := (runLog (Pmin := Pmin') (Pmax := Pmax') (dist := dist') cfg' dim pick' PState.empty pre).1
    let restored : PState := ⟨atCut.idx.reload, atCut.len, atCut.bytes⟩
    let rest := runLog (Pmin := Pmin') (Pmax := Pmax') (dist := dist') cfg' dim pick' restored suf
    (Spec.empty.runLog pre).2 ++ rest.2 = full.2 ∧
    (∀ i, absI rest.1.idx i = absI full.1.idx i) ∧ rest.1.len = full.1.len ∧ rest.1.bytes = full.1.bytes := by
  intro full atCut restored rest
  obtain ⟨hf1, hf2⟩ := refines_runLog Pmin Pmax dist cfg dim pick hp (refines_empty dim) (pre ++ suf)
  obtain ⟨hc1, _⟩ := refines_runLog Pmin' Pmax' dist' cfg' dim pick' hp' (refines_empty dim) pre
  obtain ⟨hs1, hs2⟩ := refines_runLog Pmin' Pmax' dist' cfg' dim pick' hp' (refines_reload dim hc1) suf
  obtain ⟨ha1, ha2⟩ := spec_runLog_append Spec.empty pre suf
  rw [ha1] at hf1
  exact ⟨by show _ ++ rest.2 = full.2; rw [hf2, ha2, hs2], hs1.agree hf1⟩

/-- **Restart and replay**: a fresh replica that replays the whole log (with whatever link
orders it happens to produce) ends where the replica that never restarted is. -/
theorem restart_replay (hp : PickOK pick) (hp' : PickOK pick') (log : List Change) :
    let r := runLog (Pmin := Pmin) (Pmax := Pmax) (dist := dist) cfg dim pick PState.empty log
    let r' := runLog (Pmin := Pmin') (Pmax := Pmax') (dist := dist') cfg' dim pick' PState.empty log
    r.2 = r'.2 ∧ (∀ i, absI r.1.idx i = absI r'.1.idx i) ∧ r.1.len = r'.1.len ∧ r.1.bytes = r'.1.bytes :=
  replicas_agree cfg cfg' dim pick pick' hp hp' _ _ Spec.empty (refines_empty dim) (refines_empty dim) log

end

/-- `snapshot_cut` speaks about the state after a *prefix* of the log. The snapshot the code stores
is one: it is serialised by the goroutine that applies the entries, between two entries, and is
labelled with that goroutine's last applied index (regenerated from storage/raft/group.go). -/
theorem snapshot_is_a_log_prefix :
    Generated.raftSnapshotInline = true ∧ Generated.raftSnapshotAtLastApplied = true := by decide

/-! ### the label of a snapshot

`trySnapshot` stores the in-memory state and cuts the log after `label` entries. With the label the
code uses — the apply loop's own last applied index — that is exactly the `compact` step of the
recovery model (C03), because what is applied is a prefix of what is durable. With a label that
runs ahead of the applied state (raft's commit index, seeded change C04-C) the entries in between
are in neither the snapshot nor the log any more: a restart never applies them. -/
open Anndb.Recovery in
def compactLabelled (s : St) (label : Nat) : St :=
  { s with snap := s.applied, log := s.durable.drop label }

open Anndb.Recovery in
theorem label_at_applied_is_compact {s : St} (r : Reach true s) (hu : s.up = true) :
    compactLabelled s s.applied.length = compact s := by
  obtain ⟨t, ht⟩ := Recovery.applied_is_durable_prefix r hu
  unfold compactLabelled compact
  have : s.durable.take s.applied.length = s.applied := by
    rw [← ht]; simp
  rw [this]

open Anndb.Recovery in
/-- entries 1 and 2 are durable, only 1 is applied; a snapshot labelled 2 drops entry 2 for good -/
theorem label_ahead_loses_entries :
    let s := applyAll true 1 (save (propose (propose init 1) 2))
    s.durable = [1, 2] ∧ s.applied = [1] ∧
    (compactLabelled s 2).durable = [1] ∧
    (applyAll true 5 (restart (crash (compactLabelled s 2)))).applied = [1] ∧
    (applyAll true 5 (restart (crash (compactLabelled s 1)))).applied = [1, 2] := by decide

/-! ### Non-vacuity: two genuinely different replica implementations -/

example (log : List Change) :
    let r := runLog (Pmin := listPQ minLe) (Pmax := listPQ maxLe) (dist := fun a b => a + b)
      ⟨1, 1, 2, 3, 5, false, false, true⟩ 2 (fun ids => ids.head?) PState.empty log
    let r' := runLog (Pmin := listPQ minLe) (Pmax := listPQ maxLe) (dist := fun a b => a * b + 1)
      ⟨16, 16, 32, 20, 200, true, true, false⟩ 2 (fun ids => ids.getLast?) PState.empty log
    r.2 = r'.2 ∧ (∀ i, absI r.1.idx i = absI r'.1.idx i) ∧ r.1.len = r'.1.len ∧ r.1.bytes = r'.1.bytes := by
  apply restart_replay
  · exact pickOK_head?
  · exact ⟨fun _ _ h => List.mem_of_getLast? h, fun _ h => List.getLast?_eq_none_iff.mp h⟩


/-- what `Validate` admits is what the snapshot's length fields can hold: both count bytes
(regenerated; seeded change C04-E counts characters on one side only) -/
theorem metadata_limits_are_byte_lengths : Generated.metadataLimitsAreByteLengths = true := by decide

/-- restart-and-replay starts right after the snapshot because the log store holds nothing below it: a
compaction removes every key below the snapshot index (regenerated; with a bounded compaction a restarted
replica is handed the leftover entries again, on top of the snapshot) -/
theorem compaction_removes_every_key_below : Generated.walCompactionRemovesEveryKeyBelow = true := by decide

end Anndb.C04
