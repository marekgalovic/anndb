import Anndb.Model.Validate
import Anndb.Generated
/-!
# C12 — No request can crash a node or poison the replicated log
-/
namespace Anndb.C12
open Anndb.Validate

/-- the answer a handler may give: ok or an error, never a panic or a poisoned log entry -/
def Safe (o : Out) : Prop := o = .ok ∨ o = .err

/-- a handler is a cascade of guards: each branch is checked under what the guards before it established -/
theorem Safe.ite {c : Prop} [Decidable c] {t e : Out} (ht : Safe t) (he : ¬c → Safe e) :
    Safe (if c then t else e) := by
  split
  · exact ht
  · exact he ‹_›

theorem runPrims_eq_ok {ps : List Prim} : runPrims ps = .ok ↔ ∀ p ∈ ps, p.outcome = .ok := by
  induction ps with
  | nil => simp [runPrims]
  | cons p t ih => cases hp : p.outcome <;> simp [runPrims, hp, ih]

theorem runPrims_append (a b : List Prim) (ha : runPrims a = .ok) : runPrims (a ++ b) = runPrims b := by
  induction a with
  | nil => rfl
  | cons p t ih =>
    simp only [List.cons_append, runPrims] at ha ⊢
    cases hp : p.outcome <;> simp only [hp] at ha ⊢
    · exact ih ha
    all_goals cases ha

theorem idsOk_iff {items : List Item} : idsOk items = true ↔ ∀ it ∈ items, it.1 = 16 := by
  simp [idsOk]

theorem dimsOk_iff {d : Ds} {items : List Item} : dimsOk d items = true ↔ ∀ it ∈ items, it.2 = d.dim := by
  simp [dimsOk]

theorem create_wf (members : Nat) (hm : 1 ≤ members) (r : CreateReq) (d : Ds)
    (h : create members r = (.ok, some d)) : d.Wf := by
  unfold create at h
  split at h <;> cases h
  rename_i hg
  simp only [createGuard, Bool.and_eq_true, bne_iff_ne, ne_eq, decide_eq_true_eq] at hg
  exact ⟨Nat.pos_of_ne_zero hg.1.1.2, Nat.pos_of_ne_zero hg.1.2, Nat.le_min.mpr ⟨Nat.pos_of_ne_zero hg.2, hm⟩, rfl⟩

theorem create_never_panics (members : Nat) (r : CreateReq) :
    (create members r).1 = .ok ∨ (create members r).1 = .err := by
  unfold create; split <;> simp

theorem wf_ne_zero {d : Ds} (hw : d.Wf) : d.dim ≠ 0 ∧ d.parts ≠ 0 ∧ d.replicas ≠ 0 ∧ d.spaceKnown = true := by
  simpa only [Ds.Wf, Nat.one_le_iff_ne_zero] using hw

/-- the counts are positive, the metric is known, the operands have equal length -/
theorem writePrims_ok (d : Ds) (hw : d.Wf) : runPrims (writePrims d d.dim) = .ok := by
  unfold writePrims
  split <;> simp [runPrims, Prim.outcome, wf_ne_zero hw]

theorem insert_safe (d : Ds) (hw : d.Wf) (idLen vecLen : Nat) : Safe (Validate.insert d idLen vecLen) :=
  .ite (.inr rfl) fun _ => .ite (.inr rfl) fun hv => .inl (Decidable.not_not.mp hv ▸ writePrims_ok d hw)

theorem remove_safe (d : Ds) (hw : d.Wf) (idLen : Nat) : Safe (remove d idLen) :=
  .ite (.inr rfl) fun _ => .inl (by simp [runPrims, Prim.outcome, wf_ne_zero hw])

theorem batchWrite_safe (d : Ds) (hw : d.Wf) (items : List Item) : Safe (batchWrite d items) := by
  refine .ite (.inr rfl) fun _ => .ite (.inr rfl) fun hids => .inl (runPrims_eq_ok.mpr fun p hp => ?_)
  have hids := idsOk_iff.mp (by simpa using hids)
  simp only [List.mem_append, List.mem_map, List.mem_flatMap, List.mem_filter, beq_iff_eq] at hp
  obtain ⟨it, ⟨hit, -⟩, rfl⟩ | ⟨it, ⟨-, hdim⟩, hp⟩ := hp
  · simp [Prim.outcome, hids it hit]
  · exact runPrims_eq_ok.mp (writePrims_ok d hw) p (hdim ▸ hp)

/-- **node-to-node batch RPCs never append an entry that fails at apply** -/
theorem partitionBatchWrite_safe (d : Ds) (hw : d.Wf) (items : List Item) : Safe (partitionBatchWrite d items) := by
  refine .ite (.inr rfl) fun hids => .ite (.inr rfl) fun hdims => .inl (runPrims_eq_ok.mpr fun p hp => ?_)
  have hids := idsOk_iff.mp (by simpa using hids)
  have hdims := dimsOk_iff.mp (by simpa using hdims)
  simp only [List.mem_append, List.mem_map, List.mem_flatMap] at hp
  obtain ⟨it, hit, rfl⟩ | ⟨it, hit, hp⟩ := hp
  · simp [Prim.outcome, hids it hit]
  · -- what the apply loop reaches for an item is the tail of what the write path reaches
    rw [hdims it hit] at hp
    exact runPrims_eq_ok.mp (writePrims_ok d hw) p (List.mem_append.mpr (hp.imp (fun h => .tail _ (.tail _ h)) id))

theorem partitionBatchRemove_safe (d : Ds) (items : List Item) : Safe (partitionBatchRemove d items) := by
  refine .ite (.inr rfl) fun hids => .inl (runPrims_eq_ok.mpr fun p hp => ?_)
  have hids := idsOk_iff.mp (by simpa using hids)
  obtain ⟨it, hit, rfl⟩ := List.mem_map.mp hp
  simp [Prim.outcome, hids it hit]

/-- **search with any k** (0 … 2^32-1 and beyond): buffers are bounded by the collection -/
theorem search_safe (d : Ds) (hw : d.Wf) (qLen k ef mMax0 : Nat) : Safe (search d qLen k ef mMax0) := by
  refine .ite (.inr rfl) fun hq => .ite (.inl rfl) fun hs => .inl ?_
  cases Decidable.not_not.mp hq
  have hk : (if k > d.stored then d.stored else k) ≤ d.stored := by
    split
    · exact Nat.le_refl _
    · exact Nat.le_of_not_lt ‹_›
  have hle := Nat.max_le.mpr ⟨Nat.le_max_left ef d.stored, Nat.le_trans hk (Nat.le_max_right ef d.stored)⟩
  simp [runPrims, Prim.outcome, wf_ne_zero hw, Nat.mul_le_mul_right mMax0 hle]

/-- **C12 on the model**: every request of every class is answered `ok` or with an error — never a
panic, never a poisoned log entry — on every dataset that creation lets in. -/
theorem no_panic_no_poison (members : Nat) (hm : 1 ≤ members) (r : CreateReq) (d : Ds)
    (hc : create members r = (.ok, some d)) (stored : Nat)
    (idLen vecLen k ef mMax0 : Nat) (items : List Item) :
    let d' : Ds := { d with stored := stored }
    (∀ o ∈ [Validate.insert d' idLen vecLen, remove d' idLen, batchWrite d' items, partitionBatchWrite d' items,
            partitionBatchRemove d' items, search d' vecLen k ef mMax0], o = .ok ∨ o = .err) := by
  intro d' o ho
  have hw : d.Wf := create_wf members hm r d hc
  have hw' : d'.Wf := hw
  simp only [List.mem_cons, List.not_mem_nil, or_false] at ho
  rcases ho with rfl | rfl | rfl | rfl | rfl | rfl
  · exact insert_safe d' hw' _ _
  · exact remove_safe d' hw' _
  · exact batchWrite_safe d' hw' _
  · exact partitionBatchWrite_safe d' hw' _
  · exact partitionBatchRemove_safe d' _
  · exact search_safe d' hw' _ _ _ _

/-! ## without the guards the same requests do crash or poison (what the fixes repaired) -/

theorem unguarded_create_then_insert_crashes :
    Validate.insert (createUnguarded 1 ⟨2, 0, 1, 0⟩) 16 2 = .panic ∧      -- partition count 0: x % 0
    Validate.insert (createUnguarded 1 ⟨2, 1, 0, 0⟩) 16 2 = .panic ∧      -- replication factor 0: rand.Intn(0)
    Validate.insert { createUnguarded 1 ⟨2, 1, 1, 7⟩ with stored := 1 } 16 2 = .poison ∧   -- unknown metric
    Validate.insert { createUnguarded 1 ⟨0, 1, 1, 0⟩ with stored := 1 } 16 0 = .poison := by decide  -- dimension 0: &v[0]

theorem unguarded_batch_malformed_id_panics :
    batchWriteUnguarded ⟨2, 2, 1, true, 3⟩ [(16, 2), (3, 2)] = .panic := by decide

theorem unguarded_partition_batch_poisons :
    partitionBatchWriteUnguarded ⟨2, 2, 1, true, 3⟩ [(3, 2)] = .poison ∧
    partitionBatchWriteUnguarded ⟨2, 2, 1, true, 3⟩ [(16, 5)] = .poison := by decide

theorem unguarded_search_k_max_allocates : searchUnguarded ⟨2, 2, 1, true, 10⟩ 2 4294967295 20 32 = .panic := by decide

/-- a space outside the three known values — negative ones included — is refused -/
theorem create_unknown_space_refused (members dim parts repl : Nat) (space : Int) (h : space < 0 ∨ 3 ≤ space) :
    (createInt members dim parts repl space).1 = .err := by
  unfold createInt
  split
  · have : ¬ space.toNat < 3 := by omega
    simp [create, createGuard, this]
  · rfl

/-! ## item-level failures stay item-level -/

theorem applyItem_safe (f : Bool) : applyItem false f ≠ .panic ∧ applyItem false f ≠ .poison := by
  cases f <;> decide

theorem unguarded_applyItem : applyItem true true = .poison := by decide

/-! ## the guards are in the code (regenerated facts) -/

theorem guards_in_code :
    Generated.createValidates = true ∧ Generated.batchIdsCheckedFirst = true ∧
    Generated.partitionBatchChecked = true ∧ Generated.searchBuffersUnsized = true ∧
    Generated.searchClampsK = true ∧ Generated.singleWriteIdErrors = true ∧
    Generated.applyItemErrorsNotReturned = true := by decide

/-- the inventory of constructs that can take the process down on bad data, in the packages a
request travels through (regenerated): `uuid.Must` only where ids were validated before
(`groupBatchItemsByPartition`, after `checkBatchItemIds`) or come from a peer's answer, `rand.Intn` and
the modulo only on replica and partition counts that `Create` bounds below, the raft loop's `Fatal`
on a failing log store or apply function, the queue's panics on a negative priority / empty pop. A
new site changes the list and this theorem stops checking. -/
theorem panic_site_inventory :
    Generated.panicSites = ["storage/dataset.go:errorsResponseToPartitionBatchResult:uuid.Must:1", "storage/dataset.go:getSearchQueryNodes:rand.Intn:1", "storage/dataset.go:groupBatchItemsByPartition:uuid.Must:1", "storage/partition.go:randomNodeId:rand.Intn:1", "storage/raft/group.go:run:Fatal:3", "utils/priority_queue.go:Peek:panic:1", "utils/priority_queue.go:Pop:panic:1", "utils/priority_queue.go:Push:panic:1", "utils/priority_queue.go:Reverse:panic:1", "utils/priority_queue.go:ToSlice:panic:1", "utils/uuid.go:UuidMod:%:3"] := rfl

/-! ## levels: a wire field the client controls -/

/-- **no client-chosen level reaches the apply loop**: a handler that draws the level of every item
it proposes (regenerated fact) proposes only levels `setLevel` can take, whatever 32-bit value the
request carried — for every drawn level in the range of `RandomLevel` -/
theorem client_level_never_applied (client drawn : Int) (hd : 0 ≤ drawn ∧ drawn ≤ 1024) :
    Generated.writeLevelsDrawnByHandler = true ∧
    setLevelOutcome (proposedLevel Generated.writeLevelsDrawnByHandler client drawn) = .ok := by
  have hdraws : Generated.writeLevelsDrawnByHandler = true := by decide
  refine ⟨hdraws, ?_⟩
  rw [hdraws]
  simp [proposedLevel, setLevelOutcome, levelOk, hd.1, hd.2]

/-- a handler that keeps a non-zero client level (seeded change C12-D) lets a request poison the
log: level -7 is proposed as it came and `setLevel` panics in the apply loop of every replica -/
theorem kept_client_level_poisons : setLevelOutcome (proposedLevel false (-7) 3) = .poison := by decide

/-- **no request wedges a handler or the apply loop in the greedy descent**: the walk moves only to a
strictly closer neighbour, so the running minimum strictly decreases over finitely many vertices (the
model's `greedyClosest` takes the number of vertices as fuel for that reason) — also for queries whose
distances are all NaN, for which the strict comparison is never true (regenerated; seeded change
C12-E adds "or the minimum is NaN") -/
theorem greedy_descent_strictly_improves : Generated.greedyDescentStrictlyImproves = true := by decide

/-- the metadata limits a request is held to are limits on bytes — the unit of the snapshot format's
length fields — so no accepted request can write a snapshot its replicas cannot read back
(regenerated from `Metadata.Validate`; seeded C12-F counted characters) -/
theorem metadata_limits_are_byte_lengths : Generated.metadataLimitsAreByteLengths = true := by decide

/-! ## non-vacuity -/

example : (create 3 ⟨4, 2, 2, 1⟩).1 = .ok := by decide

end Anndb.C12
