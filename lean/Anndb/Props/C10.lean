import Anndb.Model.Routing
import Anndb.Props.C14
import Anndb.Generated
/-!
# C10 — Item routing is a stable, total function of the id and the partition count
-/
namespace Anndb.C10
open Anndb.Routing

theorem pos_of_ne_zero (n : UInt64) (hn : n ≠ 0) : 0 < n.toNat :=
  Nat.pos_of_ne_zero fun h => hn (UInt64.toNat_inj.mp h)

/-- **total**: for every 128-bit id and every non-zero partition count the owner is a valid
partition index -/
theorem uuidMod_lt (lo hi n : UInt64) (hn : n ≠ 0) : uuidMod lo hi n < n := by
  unfold uuidMod
  rw [UInt64.lt_iff_toNat_lt, UInt64.toNat_mod]
  exact Nat.mod_lt _ (pos_of_ne_zero n hn)

/-- **no overflow**: the result is the mathematical `(lo + hi) mod n` — reducing both halves
before adding keeps the 64-bit sum from wrapping (for every n up to 2^63, far beyond 1024) -/
theorem uuidMod_spec (lo hi n : UInt64) (hn : n ≠ 0) (hb : n.toNat ≤ 2 ^ 63) :
    (uuidMod lo hi n).toNat = (lo.toNat + hi.toNat) % n.toNat := by
  have h1 := Nat.mod_lt lo.toNat (pos_of_ne_zero n hn)
  have h2 := Nat.mod_lt hi.toNat (pos_of_ne_zero n hn)
  have hsum : lo.toNat % n.toNat + hi.toNat % n.toNat < 2 ^ 64 :=
    Nat.lt_of_lt_of_le (Nat.add_lt_add h1 h2) (Nat.add_le_add hb hb)
  unfold uuidMod
  rw [UInt64.toNat_mod, UInt64.toNat_add, UInt64.toNat_mod, UInt64.toNat_mod, Nat.mod_eq_of_lt hsum,
    ← Nat.add_mod]

theorem owner_lt (id : List UInt8) (n : UInt64) (hn : n ≠ 0) : owner id n < n := uuidMod_lt _ _ n hn

/-- **the code is the model**: the expression `goextract` translated from `utils/uuid.go` on
this run is definitionally the model's `owner` -/
theorem code_is_model (x : List UInt8) (n : UInt64) : Generated.uuidModCode x n = owner x n := rfl

/-- **one routing function for every API path**: the only call of `utils.UuidMod` in package
storage is inside `getPartitionForId`, single insert/update/remove and the batch grouping all
go through `getPartitionForId`, and the partition list it indexes is built in catalogue order
(regenerated facts) -/
theorem single_routing_function :
    Generated.routingUuidModCallers = ["getPartitionForId"] ∧
    Generated.routingUsers = ["Insert", "Remove", "Update", "groupBatchItemsByPartition"] ∧
    Generated.routingPartitionCountFromMeta = true := ⟨rfl, rfl, rfl⟩

/-- **batch grouping routes every item to its owner, and only there**: the groups partition the
batch — an item is in group `p` iff `p` is its owner -/
theorem group_by_owner (ids : List (List UInt8)) (n : UInt64) (p : UInt64) (id : List UInt8) :
    id ∈ group ids n p ↔ id ∈ ids ∧ owner id n = p := by
  simp [group, List.mem_filter]

theorem group_disjoint (ids : List (List UInt8)) (n p q : UInt64) (hpq : p ≠ q) (id : List UInt8)
    (h1 : id ∈ group ids n p) : id ∉ group ids n q := by
  rw [group_by_owner] at h1 ⊢
  intro h2
  exact hpq (h1.2.symm.trans h2.2)

/-- every item of the batch is in the group of its owner, which is a valid partition -/
theorem group_covers (ids : List (List UInt8)) (n : UInt64) (hn : n ≠ 0) (id : List UInt8) (h : id ∈ ids) :
    id ∈ group ids n (owner id n) ∧ owner id n < n :=
  ⟨(group_by_owner ids n _ id).mpr ⟨h, rfl⟩, owner_lt id n hn⟩

/-- **stable**: the owner depends on nothing but the id bytes and the count (it is a function) -/
theorem owner_stable (id id' : List UInt8) (n n' : UInt64) (h1 : id = id') (h2 : n = n') :
    owner id n = owner id' n' := by rw [h1, h2]

/-! ## every restart computes the same owner

Routing is positional: the owner of `id` in a dataset is the partition at index
`owner id (number of partitions)` of the dataset's partition list. The list is part of the
catalogue, so "every node and every restart computes the same owner" needs the list to come back
in the same order from the catalogue log and from a catalogue snapshot. -/
open Anndb.Catalogue in
/-- the partition (its identity, not its index) that owns `id` in dataset `d` -/
def ownerPart (d : Catalogue.Dataset) (id : List UInt8) : Option Catalogue.Part :=
  d.parts[(owner id (UInt64.ofNat d.parts.length)).toNat]?

open Anndb.Catalogue in
/-- **restart from a catalogue snapshot**: a node that builds its catalogue from the snapshot of
`c` finds, for every dataset and id, the same owner partition as the node that took it -/
theorem owner_survives_snapshot_restart (c : Cat) (h : C14.Wf c) (ds : Nat) (id : List UInt8) :
    (find (restore [] (snapshot c)) ds).bind (ownerPart · id) = (find c ds).bind (ownerPart · id) := by
  rw [C14.snapshot_restore_fresh c h]

open Anndb.Catalogue in
/-- **a node caught up by snapshot + log suffix and a node that replayed the whole log route
alike** -/
theorem owner_same_on_replayed_and_restored (pre suf : List Change) (ds : Nat) (id : List UInt8) :
    (find (run (restore [] (snapshot (run [] pre))) suf) ds).bind (ownerPart · id)
      = (find (run [] (pre ++ suf)) ds).bind (ownerPart · id) := by
  rw [C14.snapshot_cut_fresh pre suf]

open Anndb.Catalogue in
theorem ownerPart_id_of_ids (d e : Catalogue.Dataset) (h : d.parts.map (·.id) = e.parts.map (·.id)) (id : List UInt8) :
    (ownerPart d id).map (·.id) = (ownerPart e id).map (·.id) := by
  have hl : d.parts.length = e.parts.length := by simpa using congrArg List.length h
  unfold ownerPart
  rw [hl, ← List.getElem?_map, ← List.getElem?_map, h]

open Anndb.Catalogue in
/-- **the owner of an id is fixed when the dataset is created**: on a node that has applied any
catalogue log with fresh ids — any prefix, any number of replica-set changes, deletions and creations
of other datasets — a listed dataset routes every id to the partition its creation entry names for
it. Hence every node, at every time and after every restart, computes the same owner. -/
theorem owner_fixed_by_the_creation_entry (log : List Change) (d : Catalogue.Dataset)
    (hd : d ∈ run [] log) (id : List UInt8) :
    ∃ e ∈ C14.creates log, e.id = d.id ∧ (ownerPart d id).map (·.id) = (ownerPart e id).map (·.id) := by
  obtain ⟨e, he, h1, h2⟩ := C14.src_of_mem_run log d hd
  exact ⟨e, he, h1, ownerPart_id_of_ids d e h2.2.2.2 id⟩

open Anndb.Catalogue in
/-- two nodes that have applied different prefixes of one log agree on the owner of every id of a
dataset both list -/
theorem nodes_at_different_prefixes_route_alike (pre suf : List Change) (hf : C14.FreshIds (pre ++ suf))
    (d d' : Catalogue.Dataset) (hd : d ∈ run [] pre) (hd' : d' ∈ run [] (pre ++ suf)) (hid : d.id = d'.id)
    (id : List UInt8) : (ownerPart d id).map (·.id) = (ownerPart d' id).map (·.id) :=
  ownerPart_id_of_ids d d' (hf.sameShape hd hd' hid).2.2.2 id

/-- the positional routing table is written once, when the dataset object is built: nothing sorts,
shuffles or reassigns it afterwards (regenerated; seeded change C10-D sorts an alias of it inside a
size query) -/
theorem routing_table_fixed_in_code : Generated.datasetPartitionTableFixed = true := by decide

/-- the snapshot in the code is the model's: metadata verbatim, no reordering (regenerated) -/
theorem snapshot_is_verbatim_in_code : Generated.catalogueSnapshotVerbatim = true := by decide

/-- why the order matters: the same two partitions listed in the other order give the id another
owner -/
theorem reordered_partitions_move_items :
    let d : Catalogue.Dataset := { id := 1, dim := 2, space := 0, repl := 1, parts := [⟨7, [1]⟩, ⟨3, [1]⟩] }
    let id : List UInt8 := [1, 0, 0, 0, 0, 0, 0, 0, 0, 0, 0, 0, 0, 0, 0, 0]
    ownerPart d id ≠ ownerPart { d with parts := d.parts.reverse } id := by decide

/-- non-vacuity: an id whose halves sum past 2^64 is still routed by the true sum
(here lo = hi = 2^64 - 1, n = 3: (2^65 - 2) mod 3 = 0) -/
example : uuidMod 0xFFFFFFFFFFFFFFFF 0xFFFFFFFFFFFFFFFF 3 = 0 := by decide

end Anndb.C10
