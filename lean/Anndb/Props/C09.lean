import Anndb.Model.FanIn
import Anndb.Generated
/-!
# C09 — Dataset search equals top-k of the union of its partitions, or fails loudly
-/
namespace Anndb.C09
open Anndb.Merge Anndb.FanIn

/-! ## the merge -/

theorem insertSorted_perm (x : Hit) (l : List Hit) : (insertSorted x l).Perm (x :: l) := by
  fun_induction insertSorted x l with
  | case1 | case2 => exact .refl _
  | case3 y ys _ ih => exact (ih.cons y).trans (.swap x y ys)

theorem sortByScore_perm (l : List Hit) : (sortByScore l).Perm l := by
  induction l with
  | nil => exact List.Perm.refl _
  | cons x t ih =>
    show (insertSorted x (sortByScore t)).Perm (x :: t)
    exact (insertSorted_perm x _).trans (List.Perm.cons x ih)

theorem insertSorted_sorted (x : Hit) (l : List Hit) (h : l.Pairwise (fun a b => a.score ≤ b.score)) :
    (insertSorted x l).Pairwise (fun a b => a.score ≤ b.score) := by
  fun_induction insertSorted x l with
  | case1 => exact List.pairwise_singleton _ _
  | case2 y ys hxy =>
    exact .cons (List.forall_mem_cons.mpr ⟨hxy, fun z hz => Nat.le_trans hxy (List.rel_of_pairwise_cons h hz)⟩) h
  | case3 y ys hxy ih =>
    obtain ⟨hy, hys⟩ := List.pairwise_cons.mp h
    refine .cons (fun z hz => ?_) (ih hys)
    rcases List.mem_cons.mp ((insertSorted_perm x ys).subset hz) with rfl | hz
    · exact Nat.le_of_not_le hxy
    · exact hy z hz

theorem sortByScore_sorted (l : List Hit) : (sortByScore l).Pairwise (fun a b => a.score ≤ b.score) := by
  induction l with
  | nil => exact List.Pairwise.nil
  | cons x t ih => exact insertSorted_sorted x _ ih

theorem sortByScore_scores_congr {l₁ l₂ : List Hit} (h : l₁.Perm l₂) :
    (sortByScore l₁).map (·.score) = (sortByScore l₂).map (·.score) :=
  (((sortByScore_perm l₁).trans (h.trans (sortByScore_perm l₂).symm)).map _).eq_of_pairwise
    (fun _ _ _ _ => Nat.le_antisymm)
    (List.pairwise_map.mpr (sortByScore_sorted l₁)) (List.pairwise_map.mpr (sortByScore_sorted l₂))

/-- **ascending score order** -/
theorem merge_sorted (k : Nat) (lists : List (List Hit)) :
    (mergeTopK k lists).Pairwise (fun a b => a.score ≤ b.score) :=
  (sortByScore_sorted _).sublist (List.take_sublist _ _)

/-- **at most k, and exactly min(k, total)** -/
theorem merge_length (k : Nat) (lists : List (List Hit)) :
    (mergeTopK k lists).length = min k lists.flatten.length := by
  unfold mergeTopK
  rw [List.length_take, (sortByScore_perm _).length_eq]

/-- **only what the partitions returned** -/
theorem merge_sub (k : Nat) (lists : List (List Hit)) (x : Hit) (h : x ∈ mergeTopK k lists) :
    ∃ l ∈ lists, x ∈ l := by
  have := (sortByScore_perm lists.flatten).subset (List.mem_of_mem_take h)
  exact List.mem_flatten.mp this

/-- **the k best**: nothing that was left out scores strictly better than something returned -/
theorem merge_optimal (k : Nat) (lists : List (List Hit)) (x y : Hit)
    (hx : x ∈ mergeTopK k lists) (hy : y ∈ (sortByScore lists.flatten).drop k) : x.score ≤ y.score := by
  have hs := sortByScore_sorted lists.flatten
  rw [← List.take_append_drop k (sortByScore lists.flatten)] at hs
  exact (List.pairwise_append.mp hs).2.2 x hx y hy

/-- **the score sequence does not depend on the order in which the workers' lists arrive** -/
theorem merge_scores_order_independent (k : Nat) (l₁ l₂ : List (List Hit)) (h : l₁.Perm l₂) :
    (mergeTopK k l₁).map (·.score) = (mergeTopK k l₂).map (·.score) := by
  simp only [mergeTopK, List.map_take, sortByScore_scores_congr h.flatten]

/-! ## the fan-in, for every schedule -/

@[simp] theorem resOf_append (a b : List Msg) : resOf (a ++ b) = resOf a ++ resOf b := by
  induction a with
  | nil => rfl
  | cons h t ih => cases h <;> simp [resOf, ih]

@[simp] theorem errCount_append (a b : List Msg) : errCount (a ++ b) = errCount a + errCount b := by
  induction a with
  | nil => simp [errCount]
  | cons h t ih => cases h <;> simp [errCount, ih, Nat.add_right_comm]

theorem resOf_length_add (ms : List Msg) : (resOf ms).length + errCount ms = ms.length := by
  induction ms with
  | nil => rfl
  | cons h t ih => cases h <;> simp [resOf, errCount] <;> omega

/-- the invariant of the protocol without the closer -/
structure Inv (ms : List Msg) (c : Cfg) : Prop where
  notClosed : c.closed = false
  count : c.got = c.acc.length
  /-- nothing is lost or invented: received ++ buffered ++ still to be sent = all result lists -/
  conserve : (c.acc ++ c.resCh ++ resOf c.pend).Perm (resOf ms)
  errs  : c.out = none → c.errCh + errCount c.pend = errCount ms
  okOut : ∀ a, c.out = some (some a) → a = c.acc ∧ c.got = ms.length

theorem inv_init (ms : List Msg) : Inv ms (init ms) := by
  refine ⟨rfl, rfl, ?_, ?_, ?_⟩ <;> simp [init]

theorem inv_step (ms : List Msg) (c c' : Cfg) (h : Inv ms c) (s : Step ms.length false c c') : Inv ms c' := by
  obtain ⟨h1, h2, h3, h4, h5⟩ := h
  cases s with
  | sendRes pre post r hp =>
    refine ⟨h1, h2, .trans ?_ h3, fun ho => by simpa [hp, errCount] using h4 ho, h5⟩
    simpa [hp, resOf, List.perm_append_left_iff] using List.perm_middle.symm
  | sendErr pre post hp =>
    refine ⟨h1, h2, by simpa [hp, resOf] using h3, fun ho => ?_, h5⟩
    have := h4 ho; simp [hp, errCount] at this ⊢; omega
  | close hc => cases hc
  | recvRes r rest ho hg hr =>
    exact ⟨h1, by simp [h2], by simpa [hr] using h3, fun _ => h4 ho, by simp [ho]⟩
  | recvErr k ho hg hk => exact ⟨h1, h2, h3, by simp, by simp⟩
  | recvClosedRes ho hg hc => simp [h1] at hc
  | recvClosedErr ho hg hc => simp [h1] at hc
  | finish ho hg => exact ⟨h1, h2, h3, by simp, by simpa [eq_comm] using hg⟩

theorem inv_reach (ms : List Msg) (c : Cfg) (r : Reach ms.length false (init ms) c) : Inv ms c := by
  induction r with
  | refl => exact inv_init ms
  | step _ s ih => exact inv_step ms _ _ ih s

theorem Inv.balance {ms : List Msg} {c : Cfg} (h : Inv ms c) :
    c.got + c.resCh.length + (resOf c.pend).length + errCount ms = ms.length := by
  have := h.conserve.length_eq
  simp only [List.length_append, ← h.count] at this
  rw [this, resOf_length_add]

/-- **Success is complete, in every schedule**: if the collector returns success then no worker
failed and what it returns is, as a multiset, exactly the result lists of all workers — never
a partial or empty collection. -/
theorem fanin_success_complete (ms : List Msg) (c : Cfg) (a : List (List Hit))
    (r : Reach ms.length false (init ms) c) (ho : c.out = some (some a)) :
    a.Perm (resOf ms) ∧ errCount ms = 0 ∧ a.length = ms.length := by
  have inv := inv_reach ms c r
  obtain ⟨rfl, hg⟩ := inv.okOut a ho
  have hb := inv.balance
  have hc := inv.conserve
  -- all `ms.length` slots are taken by received results: nothing is buffered, pending or failed
  obtain ⟨hr, hp, he⟩ : c.resCh.length = 0 ∧ (resOf c.pend).length = 0 ∧ errCount ms = 0 := by omega
  rw [List.eq_nil_of_length_eq_zero hr, List.eq_nil_of_length_eq_zero hp] at hc
  exact ⟨by simpa using hc, he, inv.count ▸ hg⟩

/-- **A failing worker is never masked**: if some worker failed, no schedule ends in success. -/
theorem fanin_error_is_loud (ms : List Msg) (c : Cfg) (a : List (List Hit))
    (r : Reach ms.length false (init ms) c) (herr : 0 < errCount ms) : c.out ≠ some (some a) :=
  fun ho => Nat.ne_of_gt herr (fanin_success_complete ms c a r ho).2.1

/-- **No schedule gets stuck**: while the collector has not returned, some action is enabled
(a worker can send, or a buffered message can be received, or the collector can finish). -/
theorem fanin_progress (ms : List Msg) (c : Cfg) (r : Reach ms.length false (init ms) c)
    (ho : c.out = none) : ∃ c', Step ms.length false c c' := by
  have inv := inv_reach ms c r
  have hb := inv.balance
  by_cases hg : c.got = ms.length
  · exact ⟨_, .finish c ho hg⟩
  -- a slot is still open: its worker has yet to send, or its message is buffered
  have hlt : c.got < ms.length := by omega
  cases hp : c.pend with
  | cons m t =>
    cases m with
    | res x => exact ⟨_, .sendRes c [] t x hp⟩
    | err => exact ⟨_, .sendErr c [] t hp⟩
  | nil =>
    cases hr : c.resCh with
    | cons x rest => exact ⟨_, .recvRes c x rest ho hlt hr⟩
    | nil =>
      have he := inv.errs ho
      simp only [hp, hr, resOf, errCount, List.length_nil] at hb he
      cases hk : c.errCh with
      | zero => omega
      | succ k => exact ⟨_, .recvErr c k ho hlt hk⟩

/-- end-to-end: a successful dataset search returns the model merge of all workers' lists, and its
score sequence is the same for every schedule -/
theorem search_result_scores (k : Nat) (ms : List Msg) (c : Cfg) (a : List (List Hit))
    (r : Reach ms.length false (init ms) c) (ho : c.out = some (some a)) :
    (mergeTopK k a).map (·.score) = (mergeTopK k (resOf ms)).map (·.score) :=
  merge_scores_order_independent k a (resOf ms) (fanin_success_complete ms c a r ho).1

/-! ## the closing variant is wrong -/

def c1 : Cfg := { pend := [], resCh := [[⟨1, 1⟩]], errCh := 0, closed := false, got := 0, acc := [], out := none }
def c2 : Cfg := { c1 with closed := true }
def cfgBad : Cfg := { c2 with out := some (some []) }

/-- **Counterexample with the closer (D8)**: one worker, which succeeded; the helper closes both
channels; the collector's select picks the closed error channel, reads a nil error and returns
`(nil, nil)`: an empty list with success although a result was buffered. -/
theorem closing_counterexample :
    Reach 1 true (init [Msg.res [⟨1, 1⟩]]) cfgBad ∧ cfgBad.out = some (some []) :=
  ⟨Reach.refl |>.step (.sendRes _ [] [] _ rfl) |>.step (.close _ rfl rfl rfl)
    |>.step (.recvClosedErr _ rfl (by decide) rfl rfl), rfl⟩

/-! ## each partition exactly once -/

/-- **every partition is consulted exactly once**: the groups of `getSearchQueryNodes` partition
the partition list -/
theorem query_nodes_cover (parts : List Nat) (choice : Nat → Nat) (p n : Nat) :
    p ∈ queryNodes parts choice n ↔ p ∈ parts ∧ choice p = n := by
  simp [queryNodes, List.mem_filter]

theorem query_nodes_once (parts : List Nat) (hn : parts.Nodup) (choice : Nat → Nat) (n : Nat) :
    (queryNodes parts choice n).Nodup := hn.filter _

theorem query_nodes_disjoint (parts : List Nat) (choice : Nat → Nat) (p n m : Nat) (hnm : n ≠ m)
    (h : p ∈ queryNodes parts choice n) : p ∉ queryNodes parts choice m := by
  rw [query_nodes_cover] at h ⊢
  intro h2
  exact hnm (h.2.symm.trans h2.2)

/-! ## what the code does (regenerated facts) -/

/-- neither `Search` nor `SearchPartitions` closes its fan-in channels (so `closing = false` is the
model of the code), both channels have capacity = number of workers (sends never block), and the
collector loops exactly once per worker; results are sorted and truncated after the loop -/
theorem code_shape :
    Generated.searchFanInCloses = false ∧ Generated.searchChanCapIsWorkerCount = true ∧
    Generated.searchCollectsOncePerWorker = true ∧ Generated.searchSortsThenTruncates = true ∧
    Generated.searchWorkerSendsOnce = true := by decide

/-- the plan names every partition, on one replica drawn from its list, member or not: a replica that
cannot be reached fails the search, it does not take the partition out of it (regenerated) -/
theorem search_plan_names_every_partition : Generated.searchPlanNamesEveryPartition = true := by decide

/-! ## non-vacuity -/

example : (mergeTopK 3 [[⟨1, 5⟩, ⟨2, 9⟩], [], [⟨3, 1⟩, ⟨4, 5⟩]]).map (·.score) = [1, 5, 5] := by decide

def cOk : Cfg := { pend := [], resCh := [], errCh := 0, closed := false, got := 1, acc := [[⟨1, 1⟩]], out := some (some [[⟨1, 1⟩]]) }

example : Reach 1 false (init [Msg.res [⟨1, 1⟩]]) cOk :=
  Reach.refl |>.step (.sendRes _ [] [] _ rfl) |>.step (.recvRes _ _ _ rfl (by decide) rfl)
    |>.step (.finish _ rfl rfl)

end Anndb.C09
