import Anndb.Model.Catalogue
import Anndb.Generated
import Anndb.Proofs.SharedGroup
/-!
# C14 — The dataset catalogue is replicated consistently and survives restart
-/
namespace Anndb.C14
open Anndb.Catalogue

def Wf (c : Cat) : Prop := (c.map (·.id)).Nodup

theorem find_none_iff (c : Cat) (id : Nat) : find c id = none ↔ id ∉ c.map (·.id) := by
  simp only [find, List.find?_eq_none, List.mem_map, beq_iff_eq, not_exists, not_and]

theorem map_id_updDataset (c : Cat) (id : Nat) (f : Dataset → Dataset) (hf : ∀ d, (f d).id = d.id) :
    (updDataset c id f).map (·.id) = c.map (·.id) := by
  unfold updDataset
  rw [List.map_map]
  apply List.map_congr_left
  intro d _
  simp only [Function.comp]
  split
  · exact hf d
  · rfl

theorem process_create_some (c : Cat) (d x : Dataset) (h : find c d.id = some x) :
    process c (.create d) = (c, .exists) := by simp [process, h]
theorem process_create_none (c : Cat) (d : Dataset) (h : find c d.id = none) :
    process c (.create d) = (c ++ [d], .ok) := by simp [process, h]
theorem process_delete_none (c : Cat) (id : Nat) (h : find c id = none) :
    process c (.delete id) = (c, .notFound) := by simp [process, h]
theorem process_delete_some (c : Cat) (id : Nat) (x : Dataset) (h : find c id = some x) :
    process c (.delete id) = (c.filter (·.id != id), .ok) := by simp [process, h]
theorem process_addNode_none (c : Cat) (ds part node : Nat) (h : find c ds = none) :
    process c (.addNode ds part node) = (c, .notFound) := by simp [process, h]
theorem process_removeNode_none (c : Cat) (ds part node : Nat) (h : find c ds = none) :
    process c (.removeNode ds part node) = (c, .notFound) := by simp [process, h]

/-- to prove `P` of the catalogue after one change: unchanged, one dataset appended, a filter, or one
partition rewritten by an id-preserving `f` -/
theorem process_cases {P : Cat → Prop} (c : Cat) (ch : Change) (same : P c)
    (created : ∀ d, ch = .create d → find c d.id = none → P (c ++ [d]))
    (deleted : ∀ id, ch = .delete id → P (c.filter (·.id != id)))
    (nodes : ∀ ds part (f : Part → Part), (∀ p, (f p).id = p.id) → P (updDataset c ds (updPart f part))) :
    P (process c ch).1 := by
  fun_cases process c ch
  case case2 d hf => exact created d rfl hf
  case case4 => exact deleted _ rfl
  case case6 | case9 => exact nodes _ _ _ fun _ => rfl
  -- the other six branches answer an error and change nothing
  all_goals exact same

theorem wf_process (c : Cat) (ch : Change) (h : Wf c) : Wf (process c ch).1 := by
  refine process_cases (P := Wf) c ch h (fun d _ hf => ?_) (fun id _ => ?_) (fun ds part f _ => ?_)
  · show (List.map (·.id) (c ++ [d])).Nodup
    rw [List.map_append]
    exact (List.perm_append_singleton _ _).nodup_iff.mpr (List.nodup_cons.mpr ⟨(find_none_iff c d.id).mp hf, h⟩)
  · exact h.sublist (List.filter_sublist.map _)
  · show (List.map (·.id) (updDataset c ds (updPart f part))).Nodup
    rwa [map_id_updDataset c ds (updPart f part) fun _ => rfl]

/-- **well-formedness is an invariant of the replicated state machine** -/
theorem wf_run (c : Cat) (log : List Change) (h : Wf c) : Wf (run c log) := by
  induction log generalizing c with
  | nil => exact h
  | cons ch rest ih => exact ih _ (wf_process c ch h)

/-- **Every node computes the same catalogue**: the catalogue is a function of the committed log
(two nodes that applied the same log hold equal catalogues, and so does a node that restarts
and replays) — `run` is a function, stated for the record. -/
theorem replicas_agree (log : List Change) (c₁ c₂ : Cat) (h : c₁ = c₂) : run c₁ log = run c₂ log := by
  rw [h]

/-- **Replay is compositional**: applying a log in two sittings (restart in between) is applying it once. -/
theorem run_append (c : Cat) (a b : List Change) : run c (a ++ b) = run (run c a) b := by
  induction a generalizing c with
  | nil => rfl
  | cons ch rest ih => exact ih _

/-- **A created dataset is listed with exactly the proposed metadata** -/
theorem create_listed (c : Cat) (d : Dataset) (h : find c d.id = none) :
    (process c (.create d)).2 = .ok ∧ d ∈ (process c (.create d)).1 := by
  rw [process_create_none c d h]; simp

/-- **A deleted dataset is gone** and stays gone until created again -/
theorem delete_unlisted (c : Cat) (id : Nat) : find (process c (.delete id)).1 id = none := by
  cases hf : find c id with
  | none => rw [process_delete_none c id hf]; exact hf
  | some x =>
    rw [process_delete_some c id x hf]
    rw [find_none_iff]
    intro hm
    obtain ⟨d, hd, he⟩ := List.mem_map.mp hm
    have := (List.mem_filter.mp hd).2
    simp [he] at this

theorem deleted_stays_deleted (c : Cat) (id : Nat) (ch : Change) (h : find c id = none)
    (hne : ∀ d, ch = .create d → d.id ≠ id) : find (process c ch).1 id = none := by
  rw [find_none_iff] at h ⊢
  refine process_cases (P := fun c' => id ∉ c'.map (·.id)) c ch h (fun d hd _ hm => ?_) (fun i _ hm => ?_)
    (fun ds part f _ => ?_)
  · rw [List.map_append, List.mem_append, List.map_singleton, List.mem_singleton] at hm
    exact hm.elim h fun he => hne d hd he.symm
  · exact h ((List.filter_sublist.map _).subset hm)
  · rwa [map_id_updDataset c ds (updPart f part) fun _ => rfl]

/-! ## snapshots -/

/-- what makes a present dataset and the snapshot's dataset "the same dataset": created by the same
entry (dataset ids are fresh random uuids: an id is created once) -/
def SameShape (d s : Dataset) : Prop :=
  d.dim = s.dim ∧ d.space = s.space ∧ d.repl = s.repl ∧ d.parts.map (·.id) = s.parts.map (·.id)

theorem find?_key_of_mem {α : Type} (key : α → Nat) :
    ∀ (l : List α) (q : α), q ∈ l → (l.map key).Nodup → l.find? (key · == key q) = some q
  | x :: t, q, hq, hn => by
    rw [List.map_cons, List.nodup_cons] at hn
    rcases List.mem_cons.mp hq with rfl | hq
    · exact List.find?_cons_of_pos (beq_self_eq_true _)
    · have hne : key x ≠ key q := fun h => hn.1 (h ▸ List.mem_map_of_mem hq)
      rw [List.find?_cons_of_neg (by simpa using hne)]
      exact find?_key_of_mem key t q hq hn.2

theorem map_setNodes (look : Nat → Option Part) :
    ∀ (dp sp : List Part), dp.map (·.id) = sp.map (·.id) → (∀ q ∈ sp, look q.id = some q) →
      (dp.map fun p => match look p.id with
        | some q => { p with nodes := q.nodes }
        | none => p) = sp
  | [], [], _, _ => rfl
  | p :: dp, q :: sp, hm, hl => by
    rw [List.map_cons, List.map_cons, List.cons.injEq] at hm
    -- what is left, `{ p with nodes := q.nodes } :: sp = q :: sp` with `p.id` rewritten to `q.id`, is `rfl`
    rw [List.map_cons, hm.1, hl q List.mem_cons_self,
      map_setNodes look dp sp hm.2 fun r hr => hl r (List.mem_cons_of_mem _ hr)]

theorem reconcile_eq (d s : Dataset) (hid : d.id = s.id) (h : SameShape d s)
    (hn : (s.parts.map (·.id)).Nodup) : reconcile d s = s := by
  obtain ⟨hdim, hsp, hr, hp⟩ := h
  have := map_setNodes (fun i => s.parts.find? (·.id == i)) d.parts s.parts hp
    fun q hq => find?_key_of_mem (·.id) s.parts q hq hn
  cases d; cases s; cases hid; cases hdim; cases hsp; cases hr
  exact congrArg _ this

/-- **Installing a catalogue snapshot gives exactly the snapshotted catalogue, whatever the member
held before** (D17 repaired): datasets deleted meanwhile disappear, replica lists that changed
are updated, new datasets appear. -/
theorem restore_is_the_snapshot (c : Cat) (snap : List Dataset)
    (hshape : ∀ s ∈ snap, ∀ d, find c s.id = some d → SameShape d s)
    (hparts : ∀ s ∈ snap, (s.parts.map (·.id)).Nodup) : restore c snap = snap := by
  refine (List.map_congr_left fun s hs => ?_).trans (List.map_id snap)
  cases hf : find c s.id with
  | none => rfl
  | some d =>
    have hid : d.id = s.id := by simpa using List.find?_some hf
    exact reconcile_eq d s hid (hshape s hs d hf) (hparts s hs)

/-! ### the hypothesis of `restore_is_the_snapshot` holds between any two points of one log

Dataset and partition ids are fresh random uuids: the log creates an id at most once, and the
partitions of one creation have distinct ids (`FreshIds`). Then a dataset that a lagging member
holds and the dataset of the same id in the leader's snapshot stem from the same creation entry
and differ in replica lists only. -/

theorem SameShape.refl (d : Dataset) : SameShape d d := ⟨rfl, rfl, rfl, rfl⟩
theorem SameShape.symm {d s : Dataset} (h : SameShape d s) : SameShape s d :=
  ⟨h.1.symm, h.2.1.symm, h.2.2.1.symm, h.2.2.2.symm⟩
theorem SameShape.trans {a b c : Dataset} (h1 : SameShape a b) (h2 : SameShape b c) : SameShape a c :=
  ⟨h1.1.trans h2.1, h1.2.1.trans h2.2.1, h1.2.2.1.trans h2.2.2.1, h1.2.2.2.trans h2.2.2.2⟩

def creates : List Change → List Dataset
  | [] => []
  | .create e :: rest => e :: creates rest
  | _ :: rest => creates rest

theorem creates_append (a b : List Change) : creates (a ++ b) = creates a ++ creates b := by
  induction a with
  | nil => rfl
  | cons ch rest ih =>
    cases ch with
    | create e => exact congrArg (e :: ·) ih
    | _ => exact ih

/-- `d` stems from a creation entry of `srcs`: same id, same shape -/
def Src (srcs : List Dataset) (d : Dataset) : Prop := ∃ e ∈ srcs, e.id = d.id ∧ SameShape d e

theorem Src.mono {srcs more : List Dataset} {d : Dataset} (h : Src srcs d) : Src (srcs ++ more) d := by
  obtain ⟨e, he, h1, h2⟩ := h
  exact ⟨e, List.mem_append_left _ he, h1, h2⟩

theorem updPart_shape (f : Part → Part) (hf : ∀ p, (f p).id = p.id) (pid : Nat) (d : Dataset) :
    SameShape (updPart f pid d) d := by
  refine ⟨rfl, rfl, rfl, ?_⟩
  simp only [updPart, List.map_map]
  apply List.map_congr_left
  intro p _
  simp only [Function.comp]
  split
  · exact hf p
  · rfl

theorem src_process (srcs : List Dataset) (c : Cat) (ch : Change) (h : ∀ d ∈ c, Src srcs d) :
    ∀ d ∈ (process c ch).1, Src (srcs ++ creates [ch]) d := by
  refine process_cases (P := fun c' => ∀ d ∈ c', Src (srcs ++ creates [ch]) d) c ch
    (fun d hd => (h d hd).mono) ?_ ?_ ?_
  · intro e he _ d hd
    rcases List.mem_append.mp hd with hd | hd
    · exact (h d hd).mono
    · exact ⟨d, by simp [he, creates, List.mem_singleton.mp hd], rfl, .refl d⟩
  · intro id _ d hd
    exact (h d (List.mem_filter.mp hd).1).mono
  · intro ds part f hf d hd
    -- a dataset whose replica lists were rewritten keeps id and shape, hence its creation entry
    obtain ⟨x, hx, rfl⟩ := List.mem_map.mp hd
    obtain ⟨e, he, h1, h2⟩ := (h x hx).mono (more := creates [ch])
    split
    · exact ⟨e, he, h1, (updPart_shape f hf part x).trans h2⟩
    · exact ⟨e, he, h1, h2⟩

theorem src_run (srcs : List Dataset) (c : Cat) (log : List Change) (h : ∀ d ∈ c, Src srcs d) :
    ∀ d ∈ run c log, Src (srcs ++ creates log) d := by
  induction log generalizing c srcs with
  | nil => intro d hd; exact (h d hd).mono
  | cons ch rest ih =>
    intro d hd
    have := ih (srcs ++ creates [ch]) (process c ch).1 (src_process srcs c ch h) d hd
    rwa [List.append_assoc, ← creates_append] at this

theorem src_of_mem_run (log : List Change) (d : Dataset) (hd : d ∈ run [] log) : Src (creates log) d :=
  src_run [] [] log nofun d hd

structure FreshIds (log : List Change) : Prop where
  once : ∀ e ∈ creates log, ∀ e' ∈ creates log, e.id = e'.id → e = e'
  parts : ∀ e ∈ creates log, (e.parts.map (·.id)).Nodup

theorem FreshIds.sameShape {pre suf : List Change} (hf : FreshIds (pre ++ suf)) {d d' : Dataset}
    (hd : d ∈ run [] pre) (hd' : d' ∈ run [] (pre ++ suf)) (hid : d.id = d'.id) : SameShape d d' := by
  obtain ⟨e, he, he1, he2⟩ := src_of_mem_run pre d hd
  obtain ⟨e', he', he1', he2'⟩ := src_of_mem_run (pre ++ suf) d' hd'
  have hemem : e ∈ creates (pre ++ suf) := by rw [creates_append]; exact List.mem_append_left _ he
  cases hf.once e hemem e' he' (by rw [he1, he1', hid])
  exact he2.trans he2'.symm

/-- **C14 (a lagging member is caught up by the leader's snapshot).** Whatever prefix of the
catalogue log a member has applied, installing the snapshot of the catalogue after the whole log
leaves it with exactly that catalogue — for every log whose ids are fresh. -/
theorem lagging_member_gets_the_leaders_catalogue (pre suf : List Change) (hf : FreshIds (pre ++ suf)) :
    restore (run [] pre) (snapshot (run [] (pre ++ suf))) = run [] (pre ++ suf) := by
  apply restore_is_the_snapshot
  · intro s hs d hd
    exact hf.sameShape (List.mem_of_find?_eq_some hd) hs (by simpa using List.find?_some hd)
  · intro s hs
    obtain ⟨e', he', _, he2'⟩ := src_of_mem_run (pre ++ suf) s hs
    rw [he2'.2.2.2]
    exact hf.parts e' he'

/-- non-vacuity: the history of `lagging_member_catches_up` has fresh ids -/
example : FreshIds [.create ⟨1, 2, 0, 1, [⟨10, [1]⟩]⟩, .create ⟨3, 4, 1, 2, [⟨30, [1, 2]⟩, ⟨31, [2, 3]⟩]⟩,
    .delete 1, .create ⟨2, 2, 0, 1, [⟨20, [1]⟩]⟩, .removeNode 3 30 1, .addNode 3 31 1] :=
  ⟨by decide, by decide⟩

/-- **Snapshot restore on a fresh node = the snapshotted catalogue** (restart from a compacted log) -/
theorem snapshot_restore_fresh (c : Cat) (_h : Wf c) : restore [] (snapshot c) = c :=
  -- nothing is found in `[]`: every dataset of the snapshot is taken as it is
  List.map_id c

/-- **Snapshot + suffix = full replay, at every cut, on a restarting node** -/
theorem snapshot_cut_fresh (pre suf : List Change) :
    run (restore [] (snapshot (run [] pre))) suf = run [] (pre ++ suf) := by
  rw [snapshot_restore_fresh _ (wf_run [] pre List.nodup_nil), run_append]

/-- **a lagging member**: it still lists dataset 1 (deleted meanwhile) and an old replica list of
dataset 3; after installing the leader's snapshot it lists exactly what the leader lists -/
theorem lagging_member_catches_up :
    let stale : Cat := [⟨1, 2, 0, 1, [⟨10, [1]⟩]⟩, ⟨3, 4, 1, 2, [⟨30, [1, 2]⟩, ⟨31, [2, 3]⟩]⟩]
    let leader : Cat := run stale [.delete 1, .create ⟨2, 2, 0, 1, [⟨20, [1]⟩]⟩, .removeNode 3 30 1, .addNode 3 31 1]
    restore stale (snapshot leader) = leader := by
  decide

/-- before the repair `processSnapshot` only added: the deleted dataset stayed listed -/
theorem add_only_restore_kept_stale_datasets :
    let stale : Cat := [⟨1, 2, 0, 1, [⟨10, [1]⟩]⟩]
    let leader : Cat := run stale [.delete 1, .create ⟨2, 2, 0, 1, [⟨20, [1]⟩]⟩]
    restoreAddOnly stale (snapshot leader) ≠ leader ∧ (restoreAddOnly stale (snapshot leader)).length = 2 := by
  decide

/-- the repair is in the code on this run (regenerated): `processSnapshot` drops what the snapshot
does not list and sets the replica lists of what it does -/
theorem snapshot_replaces_in_code : Generated.catalogueSnapshotReplaces = true := by decide

/-! ## regenerated facts -/

/-! ### through the shared group

The catalogue is one of the named consumers of the zero group (`storage/raft/shared_group.go`): the
snapshot a lagging member installs is the *shared group's* — a map consumer name → that consumer's
snapshot — and the catalogue only sees its own slot. An empty catalogue marshals to zero bytes. -/

/-- `apply` is a placeholder: the theorems here go through `snapshot` and `restore` only -/
def catalogueConsumer : Shared.Consumer Cat (List Dataset) :=
  ⟨fun c _ => c, snapshot, restore, List.isEmpty⟩

/-- **installing the shared group's snapshot installs every consumer's own part** — also a part of
zero bytes — provided the group gives every consumer a slot (`keepEmpty = true`, the regenerated
fact `sharedSnapshotKeepsEmptySlots`) -/
theorem shared_snapshot_reaches_every_consumer {σ β : Type} (ops : String → Shared.Consumer σ β)
    (names : List String) (hnd : names.Nodup) (lag lead : Shared.State σ) (n : String) (hn : n ∈ names) :
    Shared.restore ops lag (Shared.snapshot ops names Generated.sharedSnapshotKeepsEmptySlots lead) n =
      (ops n).restore (lag n) ((ops n).snapshot (lead n)) := by
  have hk : Generated.sharedSnapshotKeepsEmptySlots = true := by decide
  rw [hk]
  exact Shared.restore_listed ops n _ _ lag (Shared.mem_snapshot_keep ops lead names n hn)
    ((Shared.snapshot_names ops true lead names).nodup hnd)

/-- **C14 through the real path**: a member that has applied any prefix of the catalogue log and is
caught up by the zero group's snapshot (taken after the whole log) lists exactly the leader's
catalogue — whatever the other consumers are, and also when that catalogue is empty -/
theorem lagging_member_gets_the_leaders_catalogue_through_the_shared_group
    (ops : String → Shared.Consumer Cat (List Dataset)) (names : List String) (hnd : names.Nodup)
    (hds : "datasets" ∈ names) (hops : ops "datasets" = catalogueConsumer)
    (lag lead : Shared.State Cat) (pre suf : List Change) (hf : FreshIds (pre ++ suf))
    (hlag : lag "datasets" = run [] pre) (hlead : lead "datasets" = run [] (pre ++ suf)) :
    Shared.restore ops lag (Shared.snapshot ops names Generated.sharedSnapshotKeepsEmptySlots lead) "datasets"
      = run [] (pre ++ suf) := by
  rw [shared_snapshot_reaches_every_consumer ops names hnd lag lead "datasets" hds, hops, hlag, hlead]
  exact lagging_member_gets_the_leaders_catalogue pre suf hf

/-- a shared group that leaves out zero-byte slots (seeded change C14-D) never tells a lagging
member that the catalogue has become empty: the deleted dataset stays listed -/
theorem dropped_empty_slot_keeps_a_deleted_dataset :
    let ops : String → Shared.Consumer Cat (List Dataset) := fun _ => catalogueConsumer
    let lag : Shared.State Cat := fun n => if n = "datasets" then [⟨1, 2, 0, 1, [⟨10, [1]⟩]⟩] else []
    let lead : Shared.State Cat := fun _ => []
    Shared.restore ops lag (Shared.snapshot ops ["nodes", "datasets"] false lead) "datasets" ≠ [] ∧
    Shared.restore ops lag (Shared.snapshot ops ["nodes", "datasets"] true lead) "datasets" = [] := by
  decide

/-- the shared group hands entries and snapshot slots to the consumer they name (regenerated) -/
theorem shared_group_in_code : Generated.sharedSnapshotKeepsEmptySlots = true ∧
    Generated.sharedRestoreVisitsEverySlot = true ∧ Generated.sharedProcessByName = true := by decide

/-- the catalogue consumer is registered with the shared group before the zero group starts
replaying (server.go), so no entry or snapshot is delivered to a missing consumer -/
theorem wiring : Generated.serverStartsZeroGroupAfterConsumers = true := by decide

/-- `newDataset` keeps the partition metadata objects of the dataset's own metadata (replica-set
changes made through a partition are visible in what `List`/`snapshot` report) -/
theorem partition_meta_aliases_dataset_meta : Generated.datasetPartitionMetaShared = true := by decide

/-- the snapshot function runs on the raft apply goroutine (`trySnapshot` is called from the
ready loop, not from a goroutine of its own), so a snapshot labelled `i` contains exactly the
effect of entries ≤ `i` -/
theorem snapshot_on_apply_goroutine : Generated.raftSnapshotInline = true := by decide

/-- what the catalogue says about a partition's replicas does not depend on what the applying node can
load: the replica is listed first and unconditionally (regenerated) -/
theorem replica_add_applied_unconditionally : Generated.replicaAddAppliedUnconditionally = true := by decide

/-! ## non-vacuity -/

example : run [] [.create ⟨1, 2, 0, 2, [⟨10, [1, 2]⟩]⟩, .addNode 1 10 3, .removeNode 1 10 1, .delete 7]
    = [⟨1, 2, 0, 2, [⟨10, [2, 3]⟩]⟩] := by decide

end Anndb.C14
