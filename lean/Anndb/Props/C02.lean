import Anndb.Proofs.PartitionRefine
import Anndb.Proofs.HeapLawful
import Anndb.Generated
/-!
# C02 — A partition is a faithful map id → (vector, metadata) with exact errors

Model: `Anndb/Model/Partition.lean` — `process` is `partition.process` and its callees
(`insertValue`, `updateValue`, `deleteValue` and the three batch forms) on top of the HNSW model,
with the two counters `len` and `bytesSize` in `UInt64` and the subtraction written as the code
writes it (`x + ^(y-1)`). Specification: `Spec`, a finite map id ↦ (vector, metadata, level).

The `partition` engine checks on every run that the real partition, the specification and (in
the order-independent regime) the graph model answer identically entry by entry.
-/
namespace Anndb.C02

section
variable {Pmin Pmax : PQImpl} {dist : VecRef → VecRef → Score} (cfg : Cfg) (dim : Nat)
variable (pick : List ItemId → Option ItemId)

/-- **The partition refines the finite map, for every log.** Starting from the empty partition,
after any sequence of the six change kinds (any ids, repeats, re-insert after remove, updates
of items with and without metadata, duplicate ids inside a batch), every notified outcome
(ok / already exists / not found; per id for batches, later errors overwriting earlier ones)
is the specification's, and the final state refines the specification's final state. -/
theorem partition_refines_map (hp : PickOK pick) (log : List Change) :
    let impl := runLog (Pmin := Pmin) (Pmax := Pmax) (dist := dist) cfg dim pick PState.empty log
    let spec := Spec.empty.runLog log
    Refines dim impl.1 spec.1 ∧ impl.2 = spec.2 :=
  refines_runLog Pmin Pmax dist cfg dim pick hp (refines_empty dim) log

/-- contents: what can be retrieved is exactly what the map holds -/
theorem contents_eq (hp : PickOK pick) (log : List Change) (i : ItemId) :
    absI (runLog (Pmin := Pmin) (Pmax := Pmax) (dist := dist) cfg dim pick PState.empty log).1.idx i
      = (Spec.empty.runLog log).1.get i :=
  (partition_refines_map cfg dim pick hp log).1.abs i

/-- **The item count equals the number of live ids** (and the live ids are duplicate free). -/
theorem len_eq_live (hp : PickOK pick) (log : List Change) :
    let impl := (runLog (Pmin := Pmin) (Pmax := Pmax) (dist := dist) cfg dim pick PState.empty log).1
    let spec := (Spec.empty.runLog log).1
    impl.len = UInt64.ofNat spec.ids.length ∧ spec.ids.Nodup ∧ impl.idx.ids = spec.ids ∧
    (∀ i, i ∈ spec.ids ↔ spec.get i ≠ none) := by
  intro impl spec
  have h := (partition_refines_map (Pmin := Pmin) (Pmax := Pmax) (dist := dist) cfg dim pick hp log).1
  exact ⟨h.len, h.nodup, h.ids, h.mem_ids_iff⟩

/-- **The byte counter accounts for exactly the live items' data and never wraps**: it equals
Σ over live ids of (16 + 4·dim + metadata bytes) whenever that sum fits in 64 bits — each
removal subtracts exactly what the insertion of that incarnation added. -/
theorem bytes_exact (hp : PickOK pick) (log : List Change)
    (hfit : ((Spec.empty.runLog log).1.dataBytes dim) < 2 ^ 64) :
    (runLog (Pmin := Pmin) (Pmax := Pmax) (dist := dist) cfg dim pick PState.empty log).1.bytes.toNat
      = (Spec.empty.runLog log).1.dataBytes dim := by
  have h := (partition_refines_map (Pmin := Pmin) (Pmax := Pmax) (dist := dist) cfg dim pick hp log).1
  rw [h.bytes, UInt64.toNat_ofNat']
  exact Nat.mod_eq_of_lt hfit

end

/-! ### What the specification says (the meaning of "faithful map with exact errors") -/

/-- inserting a new id makes exactly that vector and metadata retrievable, changing nothing else -/
theorem spec_insert_new (s : Spec) (id : ItemId) (vec : VecRef) (md : Meta) (level : Nat)
    (h : s.get id = none) (hfit : mdFits md = true) :
    (s.insert id vec md level).2 = .ok ∧
    (∃ l, (s.insert id vec md level).1.get id = some ⟨vec, md, l⟩) ∧
    (∀ j, j ≠ id → (s.insert id vec md level).1.get j = s.get j) := by
  unfold Spec.insert
  simp only [h, hfit, Bool.true_eq_false, if_false]
  exact ⟨trivial, ⟨_, by rw [Spec.get_set, if_pos rfl]⟩, fun j hj => by rw [Spec.get_set, if_neg hj]⟩

/-- inserting an existing id fails with "already exists" and changes nothing -/
theorem spec_insert_existing (s : Spec) (id : ItemId) (vec : VecRef) (md : Meta) (level : Nat)
    (it : SItem) (h : s.get id = some it) (hfit : mdFits md = true) : s.insert id vec md level = (s, .exists) := by
  unfold Spec.insert; simp [h, hfit]

/-- metadata that the snapshot format cannot hold is refused — on insert, and on update when the
*merged* metadata would not fit — and nothing changes (the item that was to be updated is kept) -/
theorem spec_insert_too_large (s : Spec) (id : ItemId) (vec : VecRef) (md : Meta) (level : Nat)
    (hfit : mdFits md = false) : s.insert id vec md level = (s, .mdTooLarge) := by
  unfold Spec.insert; simp [hfit]

theorem spec_update_too_large (s : Spec) (id : ItemId) (vec : VecRef) (md : Meta) (it : SItem)
    (h : s.get id = some it) (hfit : mdFits (mergeMd md it.md) = false) :
    s.update id vec md = (s, .mdTooLarge) := by
  unfold Spec.update; simp [h, hfit]

/-- removing / updating an absent id fails with "not found" and changes nothing -/
theorem spec_delete_absent (s : Spec) (id : ItemId) (h : s.get id = none) : s.delete id = (s, .notFound) := by
  unfold Spec.delete; simp [h]

theorem spec_update_absent (s : Spec) (id : ItemId) (vec : VecRef) (md : Meta) (h : s.get id = none) :
    s.update id vec md = (s, .notFound) := by
  unfold Spec.update; simp [h]

/-- removing makes the id unretrievable, changing nothing else -/
theorem spec_delete_present (s : Spec) (id : ItemId) (it : SItem) (h : s.get id = some it) :
    (s.delete id).2 = .ok ∧ (s.delete id).1.get id = none ∧
    (∀ j, j ≠ id → (s.delete id).1.get j = s.get j) := by
  unfold Spec.delete
  simp only [h]
  exact ⟨trivial, by rw [Spec.get_erase, if_pos rfl], fun j hj => by rw [Spec.get_erase, if_neg hj]⟩

/-- updating replaces the vector, merges the metadata and keeps the level, changing nothing else -/
theorem spec_update_present (s : Spec) (id : ItemId) (vec : VecRef) (md : Meta) (it : SItem)
    (h : s.get id = some it) (hfit : mdFits (mergeMd md it.md) = true) :
    (s.update id vec md).2 = .ok ∧
    (∃ l, (s.update id vec md).1.get id = some ⟨vec, mergeMd md it.md, l⟩) ∧
    (∀ j, j ≠ id → (s.update id vec md).1.get j = s.get j) := by
  unfold Spec.update
  simp only [h, hfit, Bool.true_eq_false, if_false]
  obtain ⟨h1, h2, h3⟩ := spec_insert_new (s.erase id) id vec (mergeMd md it.md) it.level
    (by rw [Spec.get_erase, if_pos rfl]) hfit
  exact ⟨h1, h2, fun j hj => by rw [h3 j hj, Spec.get_erase, if_neg hj]⟩

def lookupMd (m : Meta) (k : String) : Option String := (m.find? fun kv => kv.1 == k).map (·.2)

/-- lookup in merged metadata: new keys win, old keys are kept -/
theorem mergeMd_lookup (new old : Meta) (k : String) :
    lookupMd (mergeMd new old) k = match lookupMd new k with
      | some v => some v
      | none => lookupMd old k := by
  unfold lookupMd mergeMd
  rw [List.find?_append]
  cases hn : new.find? (fun kv => kv.1 == k) with
  | some kv => rfl
  | none =>
    -- `find?` is the head of a filter; no new key is `k`, so `mergeMd`'s filter keeps every old
    -- entry with key `k`
    rw [Option.none_or, ← List.head?_filter, ← List.head?_filter, List.filter_filter]
    refine congrArg _ (congrArg _ (List.filter_congr fun kv _ => ?_))
    cases hk : kv.1 == k with
    | false => rfl
    | true =>
      rw [Bool.true_and, Bool.not_eq_true', List.any_eq_false]
      intro nk hnk
      have := List.find?_eq_none.mp hn nk hnk
      rwa [← eq_of_beq hk] at this

/-! ### every stored item's metadata fits the snapshot format -/

def AllFit (s : Spec) : Prop := ∀ i it, s.get i = some it → mdFits it.md = true

theorem AllFit.set {s : Spec} (h : AllFit s) (id : ItemId) {it : SItem} (hfit : mdFits it.md = true) :
    AllFit (s.set id it) := by
  intro i it' hi
  rw [Spec.get_set] at hi
  split at hi
  · cases hi; exact hfit
  · exact h i it' hi

theorem AllFit.erase {s : Spec} (h : AllFit s) (id : ItemId) : AllFit (s.erase id) := by
  intro i it hi
  rw [Spec.get_erase] at hi
  split at hi
  · cases hi
  · exact h i it hi

theorem allFit_insert (s : Spec) (h : AllFit s) (id : ItemId) (vec : VecRef) (md : Meta) (level : Nat) :
    AllFit (s.insert id vec md level).1 := by
  fun_cases Spec.insert s id vec md level
  case case3 hfit _ => exact h.set id ((Bool.not_eq_false _).mp hfit)
  all_goals exact h

theorem allFit_delete (s : Spec) (h : AllFit s) (id : ItemId) : AllFit (s.delete id).1 := by
  fun_cases Spec.delete s id
  · exact h
  · exact h.erase id

theorem allFit_update (s : Spec) (h : AllFit s) (id : ItemId) (vec : VecRef) (md : Meta) :
    AllFit (s.update id vec md).1 := by
  fun_cases Spec.update s id vec md
  case case3 => exact allFit_insert _ (h.erase id) _ _ _ _
  all_goals exact h

theorem allFit_batchFold (g : Spec → BatchItem → Spec × Outcome)
    (hg : ∀ s it, AllFit s → AllFit (g s it).1) (s : Spec) (h : AllFit s) (items : List BatchItem) :
    AllFit (Spec.batchFold g s items).1 := by
  refine List.foldlRecOn (motive := fun acc : Spec × List (ItemId × Outcome) => AllFit acc.1) items _ h ?_
  intro acc hacc it _
  have h1 := hg acc.1 it hacc
  generalize g acc.1 it = r at h1
  obtain ⟨s', o⟩ := r
  cases o <;> exact h1

theorem allFit_step (s : Spec) (h : AllFit s) (c : Change) : AllFit (s.step c).1 := by
  cases c with
  | insert id vec md level => exact allFit_insert s h id vec md level
  | update id vec md => exact allFit_update s h id vec md
  | delete id => exact allFit_delete s h id
  | batchInsert items => exact allFit_batchFold _ (fun s it hs => allFit_insert s hs _ _ _ _) s h items
  | batchUpdate items => exact allFit_batchFold _ (fun s it hs => allFit_update s hs _ _ _) s h items
  | batchDelete items => exact allFit_batchFold _ (fun s it hs => allFit_delete s hs _) s h items

theorem allFit_runLog (s : Spec) (h : AllFit s) (log : List Change) : AllFit (s.runLog log).1 := by
  induction log generalizing s with
  | nil => exact h
  | cons c rest ih => exact ih _ (allFit_step s h c)

/-- **every reachable partition state can be snapshotted**: after any log, every stored item's
metadata fits the format's length fields (with `partition_refines_map`: the real index's items
are the specification's) -/
theorem reachable_metadata_fits (log : List Change) : AllFit (Spec.empty.runLog log).1 :=
  allFit_runLog _ (fun _ _ hi => by simp [Spec.empty] at hi) log

set_option maxRecDepth 8192 in
example : mdFits [("k", "v")] = true ∧ mdFits [(String.ofList (List.replicate 256 'a'), "")] = false := by decide +kernel

/-! ### Instantiation at the repo's own queue, and non-vacuity -/

theorem partition_refines_map_goheap (dist : VecRef → VecRef → Score) (cfg : Cfg) (dim : Nat)
    (log : List Change) :
    let impl := runLog (Pmin := goHeap ltMin ltMin_ok) (Pmax := goHeap ltMax ltMax_ok) (dist := dist)
      cfg dim (fun ids => ids.head?) PState.empty log
    Refines dim impl.1 (Spec.empty.runLog log).1 ∧ impl.2 = (Spec.empty.runLog log).2 :=
  partition_refines_map cfg dim _ pickOK_head? log

/-- the model's `insert` tests existence and stores in one step; in the code that is one critical section
of the shard's lock in `storeVertex` / `removeVertex` (regenerated). With the test outside the lock
(seeded C02-F) two simultaneous inserts of one id are both told success and the counters count the id
twice — engine `conc-dupinsert` is the failing input for that. -/
theorem existence_test_and_store_are_one_step : Generated.indexStoreRemoveAtomic = true := by decide

/-- a concrete log with re-insert, update-with-merge and a batch with a duplicate id -/
example : (Spec.empty.runLog
    [.insert 1 0 [("a", "1")] 2, .update 1 1 [("b", "x")], .delete 1, .insert 1 2 [] 0,
     .batchInsert [⟨2, 3, [], 0⟩, ⟨2, 4, [], 1⟩, ⟨1, 5, [], 0⟩]]).2
    = [.single .ok, .single .ok, .single .ok, .single .ok, .batch [(1, .exists), (2, .exists)]] := by
  decide

end Anndb.C02
