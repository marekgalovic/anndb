import Anndb.Model.ConcIndex
import Anndb.Generated
/-!
# C13 — The index is safe under concurrent inserts, removals and searches (partial)

Proved about the micro-step model, for all interleavings: what one search visits and returns (any
number of writers) and where the entry point stands (single writer); the two exceptions are proved
as reachable states. Not expressible here: data-race freedom in the Go memory model and runtime
panics on concurrent map access — the `conc` engine runs the real index under the race detector
instead.
-/
namespace Anndb.C13
open Anndb.ConcIndex

@[simp] theorem setF_self {β : Type} (f : Nat → β) (k : Nat) (x : β) : setF f k x k = x := if_pos rfl

theorem setF_of_ne {β : Type} (f : Nat → β) {j k : Nat} (h : j ≠ k) (x : β) : setF f k x j = f j := if_neg h

theorem setF_true {f : Nat → Bool} {k j : Nat} : setF f k true j = true ↔ j = k ∨ f j = true := by
  by_cases h : j = k <;> simp [setF, h]

theorem setF_false {f : Nat → Bool} {k j : Nat} : setF f k false j = true ↔ j ≠ k ∧ f j = true := by
  by_cases h : j = k <;> simp [setF, h]

/-- `store` sets `stored`, `ever` and `liveDuring` at the same vertex: a clause `f u → g u` between two
of them survives -/
theorem setF_true_mono {f g : Nat → Bool} {k j : Nat} (h : f j = true → g j = true)
    (hf : setF f k true j = true) : setF g k true j = true :=
  setF_true.mpr ((setF_true.mp hf).imp_right h)

/-! ## any number of writers: what a search visits -/

/-- `A`: any number of writers; `InvR` below: what a search returns; `InvW`: a single writer -/
structure InvA (c : Cfg) : Prop where
  notTomb : ∀ v, c.ever v = true → c.tomb v = false → c.stored v = true
  during : c.started = true → ∀ v, c.stored v = true → c.liveDuring v = true
  visited : ∀ v ∈ c.okVisited, c.liveDuring v = true
  notStarted : c.started = false → c.okVisited = []
  storedEver : ∀ v, c.stored v = true → c.ever v = true

theorem invA_init : InvA init := by
  refine ⟨?_, ?_, ?_, ?_, ?_⟩ <;> simp [init]

theorem invA_step (nw : Nat) (c c' : Cfg) (h : InvA c) (s : Step nw c c') : InvA c' := by
  obtain ⟨h1, h2, h3, h4, h5⟩ := h
  cases s with
  | store i v =>
    exact ⟨fun u hu ht => setF_true_mono (h1 u · ht) hu, fun hs u => setF_true_mono (h2 hs u),
      fun u hu => setF_true.mpr (.inr (h3 u hu)), h4, fun u => setF_true_mono (h5 u)⟩
  | remTomb i v =>
    refine ⟨fun u hu ht => ?_, fun hs u hu => h2 hs u (setF_false.mp hu).2, h3, h4,
      fun u hu => h5 u (setF_false.mp hu).2⟩
    have huv : u ≠ v := by rintro rfl; simp at ht
    exact setF_false.mpr ⟨huv, h1 u hu ((setF_of_ne _ huv _).symm.trans ht)⟩
  | searchStart hs => exact ⟨h1, fun _ _ hu => hu, by simp [h4 hs], by simp, h5⟩
  | searchVisit v hs he ht =>
    exact ⟨h1, h2, List.forall_mem_cons.mpr ⟨h2 hs v (h1 v he ht), h3⟩, by simp [hs], h5⟩
  | _ => exact ⟨h1, h2, h3, h4, h5⟩

theorem invA_reach (nw : Nat) (c : Cfg) (r : Reach nw init c) : InvA c := by
  induction r with
  | refl => exact invA_init
  | step _ s ih => exact invA_step nw _ _ ih s

/-- **Whatever a search found not tombstoned was stored at some instant during that search** —
for every interleaving with any number of concurrent writers. (A search returns its start
vertex and vertices it found not tombstoned; the start vertex is the exception below.) -/
theorem visited_was_live_during_search (nw : Nat) (c : Cfg) (r : Reach nw init c) :
    ∀ v ∈ c.okVisited, c.liveDuring v = true :=
  (invA_reach nw c r).visited

/-! ## any number of writers: what a search returns -/

/-- `ret` is the claim. For a returned start vertex `InvA.notTomb` needs `ever` of it; the search read
it from the entry point, and a hand-over sets that from `chosen`. -/
structure InvR (c : Cfg) : Prop where
  entryEver : ∀ u, c.entry = some u → c.ever u = true
  chosenEver : ∀ i v x, c.wpc i = .chosen v (some x) → c.ever x = true
  startEver : ∀ v, c.start = some v → c.ever v = true
  ret : ∀ v ∈ c.returned, c.liveDuring v = true
  retNotStarted : c.started = false → c.returned = []

theorem invR_init : InvR init := by
  refine ⟨?_, ?_, ?_, ?_, ?_⟩ <;> simp [init]

theorem chosen_of_setF {wpc : Nat → WPc} {i j v x : Nat} {pc : WPc}
    (h : setF wpc i pc j = .chosen v (some x)) (hpc : ∀ v x, pc ≠ .chosen v (some x)) :
    wpc j = .chosen v (some x) := by
  by_cases hji : j = i
  · subst hji; exact absurd ((setF_self ..).symm.trans h) (hpc v x)
  · rwa [setF_of_ne _ hji] at h

theorem invR_step (nw : Nat) (c c' : Cfg) (ha : InvA c) (h : InvR c) (s : Step nw c c') : InvR c' := by
  obtain ⟨h1, h2, h3, h4, h5⟩ := h
  cases s with
  | store i v =>
    refine ⟨fun u hu => setF_true.mpr ?_, fun j a x hc => setF_true.mpr (.inr (h2 j a x hc)),
      fun u hu => setF_true.mpr (.inr (h3 u hu)), fun u hu => setF_true.mpr (.inr (h4 u hu)), h5⟩
    split at hu
    · exact .inl (Option.some.inj hu).symm
    · exact .inr (h1 u hu)
  | insPromote i v _ _ hs => exact ⟨fun u hu => Option.some.inj hu ▸ ha.storedEver v hs, h2, h3, h4, h5⟩
  | remTomb i v => exact ⟨h1, fun j a x hc => h2 j a x (chosen_of_setF hc (fun _ _ => nofun)), h3, h4, h5⟩
  | remChoose i v w _ _ hst =>
    refine ⟨h1, fun j a x hc => ?_, h3, h4, h5⟩
    by_cases hji : j = i
    · subst hji
      obtain ⟨_, rfl⟩ := WPc.chosen.inj ((setF_self ..).symm.trans hc)
      exact ha.storedEver x (hst x rfl)
    · exact h2 j a x ((setF_of_ne _ hji _).symm.trans hc)
  | remHandover i v w _ hw =>
    refine ⟨fun u hu => ?_, fun j a x hc => h2 j a x (chosen_of_setF hc (fun _ _ => nofun)), h3, h4, h5⟩
    split at hu
    · exact h2 i v u (hu ▸ hw)
    · exact h1 u hu
  | searchStart hs => exact ⟨h1, h2, h1, by simp [h5 hs], by simp⟩
  | searchVisit => exact ⟨h1, h2, h3, h4, h5⟩
  | searchReturn v hs hv ht =>
    refine ⟨h1, h2, h3, List.forall_mem_cons.mpr ⟨?_, h4⟩, by simp [hs]⟩
    rcases hv with hstart | hvis
    · exact ha.during hs v (ha.notTomb v (h3 v hstart) ht)
    · exact ha.visited v hvis

theorem invR_reach (nw : Nat) (c : Cfg) (r : Reach nw init c) : InvR c := by
  induction r with
  | refl => exact invR_init
  | step r' s ih => exact invR_step nw _ _ (invA_reach nw _ r') ih s

/-- **Every vertex a search returns was stored at some instant of that search** — for every
interleaving with any number of concurrent writers, including a search whose start vertex had been
removed before it began (the result assembly tests the tombstone: `search_skips_tombstoned`). -/
theorem returned_was_live_during_search (nw : Nat) (c : Cfg) (r : Reach nw init c) :
    ∀ v ∈ c.returned, c.liveDuring v = true :=
  (invR_reach nw c r).ret

/-! ## single writer: the entry point -/

structure InvW (c : Cfg) : Prop where
  others : ∀ i, i ≠ 0 → c.wpc i = .idle
  entry : ∀ u, c.entry = some u →
    match c.wpc 0 with
    | .idle => c.stored u = true
    | .removing v => u = v ∨ c.stored u = true
    | .chosen v _ => u = v ∨ c.stored u = true
  chosen : ∀ v w, c.wpc 0 = .chosen v w → (∀ x, w = some x → c.stored x = true)
  removingNot : ∀ v, (c.wpc 0 = .removing v ∨ ∃ w, c.wpc 0 = .chosen v w) → c.stored v = false

theorem invW_init : InvW init := by
  refine ⟨by simp [init], by simp [init], by simp [init], by simp [init]⟩

theorem invW_step (c c' : Cfg) (h : InvW c) (s : Step 1 c c') : InvW c' := by
  obtain ⟨h1, h2, h3, h4⟩ := h
  have others' (pc : WPc) : ∀ j, j ≠ 0 → setF c.wpc 0 pc j = .idle :=
    fun j hj => (setF_of_ne _ hj _).trans (h1 j hj)
  cases s with
  | store i v hi hw =>
    obtain rfl := Nat.lt_one_iff.mp hi
    refine ⟨h1, fun u hu => ?_, fun a w hc => by simp [hw] at hc, fun a hc => by simp [hw] at hc⟩
    have h2 := h2 u
    simp only [hw] at h2 ⊢
    split at hu
    · exact setF_true.mpr (.inl (Option.some.inj hu).symm)
    · exact setF_true.mpr (.inr (h2 hu))
  | insPromote i v hi hw hs =>
    obtain rfl := Nat.lt_one_iff.mp hi
    refine ⟨h1, fun u hu => ?_, h3, h4⟩
    obtain rfl := Option.some.inj hu
    simpa only [hw] using hs
  | remTomb i v hi hw hs =>
    obtain rfl := Nat.lt_one_iff.mp hi
    refine ⟨others' _, fun u hu => ?_, by simp, by simp⟩
    have h2 := h2 u hu
    simp only [hw, setF_self, setF_false] at h2 ⊢
    exact (Decidable.em (u = v)).imp_right (⟨·, h2⟩)
  | remChoose i v w hi hw hsome =>
    obtain rfl := Nat.lt_one_iff.mp hi
    refine ⟨others' _, fun u hu => ?_, fun a b hc => ?_, fun a hc => ?_⟩
    · simpa only [hw, setF_self] using h2 u hu
    · obtain ⟨_, rfl⟩ := WPc.chosen.inj ((setF_self c.wpc 0 _).symm.trans hc)
      exact hsome
    · obtain rfl : v = a := by simpa using hc
      exact h4 v (.inl hw)
  | remHandover i v w hi hw =>
    obtain rfl := Nat.lt_one_iff.mp hi
    refine ⟨others' _, fun u hu => ?_, by simp, by simp⟩
    have h2 := h2 u
    simp only [hw, setF_self] at h2 ⊢
    split at hu
    · exact h3 v w hw u hu
    · exact (h2 hu).resolve_left (by rintro rfl; contradiction)
  | searchStart | searchVisit | searchReturn => exact ⟨h1, h2, h3, h4⟩

theorem invW_reach (c : Cfg) (r : Reach 1 init c) : InvW c := by
  induction r with
  | refl => exact invW_init
  | step _ s ih => exact invW_step _ _ ih s

/-- **Single writer, quiescence**: whenever the writer is between operations the entry point is a
stored (hence not tombstoned) vertex — the structural invariant C01's theorems start from —
however searches interleave with it. -/
theorem single_writer_entry_live (c : Cfg) (r : Reach 1 init c) (hq : c.wpc 0 = .idle)
    (u : Nat) (hu : c.entry = some u) : c.stored u = true := by
  have := (invW_reach c r).entry u hu
  simpa [hq] using this

/-! ## the two exceptions, as reachable states -/

/-- a search that starts after `removeVertex` tombstoned the entry point and before the hand-over
takes the removed vertex as its start vertex: it was stored at no instant of the search. One writer
suffices. (This was defect D23 while the result was assembled without a tombstone test; by
`returned_was_live_during_search` such a start vertex is traversed but never returned.) -/
theorem search_may_start_at_removed_entry :
    ∃ c, Reach 1 init c ∧ c.started = true ∧ c.start = some 7 ∧ c.liveDuring 7 = false :=
  ⟨_, Reach.refl |>.step (.store _ 0 7 (by decide) rfl rfl) |>.step (.remTomb _ 0 7 (by decide) rfl rfl)
    |>.step (.searchStart _ rfl), rfl, rfl, rfl⟩

/-- **Two writers**: writer 0 removes the entry point `1` and chooses its neighbour `2` while `2`
is still stored; writer 1 removes `2`; writer 0's CAS then installs the removed `2` as entry
point — at quiescence the entry point is not stored. -/
theorem two_writers_break_entry :
    ∃ c, Reach 2 init c ∧ c.wpc 0 = .idle ∧ c.wpc 1 = .idle ∧ c.entry = some 2 ∧ c.stored 2 = false :=
  ⟨_, Reach.refl |>.step (.store _ 0 1 (by decide) rfl rfl) |>.step (.store _ 0 2 (by decide) rfl rfl)
    |>.step (.remTomb _ 0 1 (by decide) rfl rfl)
    |>.step (.remChoose _ 0 1 (some 2) (by decide) rfl (by rintro _ ⟨⟩; rfl) nofun)
    |>.step (.remTomb _ 1 2 (by decide) rfl rfl)
    |>.step (.remChoose _ 1 2 none (by decide) rfl nofun fun _ x =>
      -- both stored vertices are gone again
      Bool.eq_false_iff.mpr fun h => by simp [init, setF_false, setF_true] at h; omega)
    |>.step (.remHandover _ 1 2 none (by decide) rfl) |>.step (.remHandover _ 0 1 (some 2) (by decide) rfl),
    rfl, rfl, rfl, rfl⟩

/-! ## what the code does (regenerated facts) -/

/-- `storeVertex` / `removeVertex` test and update the shard map, the counters and (remove) the
tombstone inside one critical section of the id's shard lock; `Get`/`GetVertex` read under the read
lock; no edge lock is taken while another edge lock or a shard lock is held -/
theorem locking_shape :
    Generated.indexStoreRemoveAtomic = true ∧ Generated.indexReadsUnderShardLock = true ∧
    Generated.indexNoNestedEdgeLocks = true := by decide

/-- `Search` tests the tombstone of every vertex it puts into its result -/
theorem search_skips_tombstoned : Generated.searchSkipsTombstonedResults = true := by decide

/-- **searches share nothing they write** (regenerated from `index/hnsw.go`): in the read path of the
index — `Search`, `greedyClosestNeighbor`, `searchLevel`, `selectNeighbors*` — every assignment goes to
a local variable (or into a local map / slice) and nothing is called but read-only accessors and the
search's own local queues. Hence what the theorems of this file say about one search holds for each
of any number of simultaneous searches on an index nobody writes (seeded changes C01-D / C07-D keep
the visited marks on the vertices: simultaneous searches then return an id twice). -/
theorem search_path_writes_nothing_shared : Generated.searchPathWritesNothingShared = true := by decide

/-- frame: a search's own steps change nothing but the search's bookkeeping — membership, tombstones,
the entry point and the writers' program counters are what they were -/
theorem search_steps_write_nothing_shared (nw : Nat) (c c' : ConcIndex.Cfg) (s : ConcIndex.Step nw c c') :
    (c'.started ≠ c.started ∨ c'.okVisited ≠ c.okVisited ∨ c'.returned ≠ c.returned) →
      c'.stored = c.stored ∧ c'.ever = c.ever ∧ c'.tomb = c.tomb ∧ c'.entry = c.entry ∧ c'.wpc = c.wpc := by
  cases s with
  | searchStart | searchVisit | searchReturn => exact fun _ => ⟨rfl, rfl, rfl, rfl, rfl⟩
  | _ => exact fun hch => absurd hch (by simp)

/-- a removed vertex keeps its own edge sets: an operation that already stands on it (it read it as
entry point) goes on through them to live vertices — what `searchVisit` of the model allows
(regenerated; seeded change C13-E clears them "to help the garbage collector") -/
theorem remove_keeps_the_removed_vertex_edges : Generated.removeKeepsTheRemovedVertexEdges = true := by decide

end Anndb.C13
