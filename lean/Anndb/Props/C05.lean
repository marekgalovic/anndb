import Anndb.Model.RaftLoop
import Anndb.Model.SnapTransfer
import Anndb.Proofs.Quorum
import Anndb.Generated
/-!
# C05 — the raft glue keeps its side of the contract

etcd/raft's safety (no two replicas apply different entries at one position) is the library's,
conditional on the host loop; it is *trusted*, and observed end to end by the `raft` engine on
real groups under faults. What is proved here, for every sequence of `Ready`s the library can
hand over (`ReadyOK`), is the host's side: no message leaves a replica before the log store holds
what it attests, every committed index is applied once and in order, a restarted replica resumes from
its store — and what the first and the last buy for the election: one leader per term.

`ReadyOK` is etcd/raft's documented contract ("messages are sent after HardState and Entries are
written to stable storage") plus the one relaxation the code uses: a replica that is leader after
the Ready's soft state may send before saving. (b) is the assumption that a leader's messages
attest nothing that is not durable yet; the engine checks it on every message that leaves.
-/
namespace Anndb.RaftLoop

structure ReadyOK (self : Nat) (h : Host) (rd : Ready) : Prop where
  afterSave : ∀ m ∈ rd.msgs, attested self m (saveDur h.dur rd) = true
  leaderEarly : rd.lead.getD h.leader = self → ∀ m ∈ rd.msgs, attested self m h.dur = true

-- `+kernel`: the elaborator is slow at matching string literals, so only the kernel evaluates
theorem order_in_code : Generated.readyLoopOrder.map parseStmt = canonical := by decide +kernel

theorem iteration_canonical (self : Nat) (h : Host) (rd : Ready) :
    iteration canonical self h rd =
      (let lead := rd.lead.getD h.leader
       ({ dur := saveDur h.dur rd, leader := lead, applied := h.applied ++ rd.committed },
        rd.msgs.map (·, if lead = self then h.dur else saveDur h.dur rd))) := by
  simp only [iteration, canonical, List.foldl_cons, List.foldl_nil, execStmt]
  by_cases hl : rd.lead.getD h.leader = self <;> simp [hl]

/-- **C05 (durable before it leaves), one iteration.** -/
theorem loop_attests (self : Nat) (h : Host) (rd : Ready) (ok : ReadyOK self h rd) :
    ∀ md ∈ (iteration canonical self h rd).2, attested self md.1 md.2 = true := by
  intro md hmd
  rw [iteration_canonical] at hmd
  obtain ⟨m, hm, rfl⟩ := List.mem_map.mp hmd
  split
  · next hl => exact ReadyOK.leaderEarly ok hl m hm
  · exact ReadyOK.afterSave ok m hm

/-- every Ready of a run satisfies the contract relative to the host state it is handed to -/
def RunOK (self : Nat) : Host → List Ready → Prop
  | _, [] => True
  | h, rd :: rest => ReadyOK self h rd ∧ RunOK self (iteration canonical self h rd).1 rest

/-- **C05 (durable before it leaves), every run** of the loop in the statement order extracted from
`RaftGroup.run` (`order_in_code`). -/
theorem run_attests (self : Nat) (h : Host) (rds : List Ready) (ok : RunOK self h rds) :
    ∀ md ∈ (run canonical self h rds).2, attested self md.1 md.2 = true := by
  induction rds generalizing h with
  | nil => simp [run]
  | cons rd rest ih =>
    obtain ⟨ok1, ok2⟩ := ok
    intro md hmd
    simp only [run] at hmd
    rcases List.mem_append.mp hmd with hm | hm
    · exact loop_attests self h rd ok1 md hm
    · exact ih _ ok2 md hm

/-- the mutated order: a follower that grants a vote tells the candidate before its vote is stored -/
def grantVote : Ready := ⟨none, some (2, 5), none, [⟨.voteResp, 2, 0, false, 5⟩], []⟩
def follower : Host := ⟨⟨1, 0, 4⟩, 9, []⟩

theorem grantVote_ok : ReadyOK 3 follower grantVote :=
  ⟨by decide, by decide⟩

theorem send_first_breaks :
    ∃ md ∈ (iteration (.softState :: .sendAlways :: .save :: [.apply, .advance]) 3 follower grantVote).2,
      attested 3 md.1 md.2 = false :=
  ⟨(⟨.voteResp, 2, 0, false, 5⟩, ⟨1, 0, 4⟩), by decide, by decide⟩

/-! ## apply cursor -/

/-- etcd/raft hands over the committed indices contiguously, starting after the last one handed over -/
def Contiguous : Nat → List Ready → Prop
  | _, [] => True
  | n, rd :: rest => rd.committed = (List.range' (n + 1) rd.committed.length) ∧ Contiguous (n + rd.committed.length) rest

theorem run_applied (self : Nat) (h : Host) (rds : List Ready) :
    (run canonical self h rds).1.applied = h.applied ++ (rds.map (·.committed)).flatten := by
  induction rds generalizing h with
  | nil => simp [run]
  | cons rd rest ih =>
    simp only [run]
    rw [ih]
    rw [iteration_canonical]
    simp [List.append_assoc]

theorem contiguous_flatten (n : Nat) (rds : List Ready) (hc : Contiguous n rds) :
    (rds.map (·.committed)).flatten = List.range' (n + 1) ((rds.map (·.committed.length)).sum) := by
  induction rds generalizing n with
  | nil => rfl
  | cons rd rest ih =>
    obtain ⟨h1, h2⟩ := hc
    rw [List.map_cons, List.flatten_cons, List.map_cons, List.sum_cons, ih _ h2, ← List.range'_append_1, ← h1,
      Nat.add_right_comm]

/-- **C05 (positions in order).** Starting with nothing applied, after any run the apply function
has been handed the positions 1, 2, …, k once each, in order. -/
theorem applied_in_order (self : Nat) (h : Host) (rds : List Ready) (h0 : h.applied = [])
    (hc : Contiguous 0 rds) :
    (run canonical self h rds).1.applied = List.range' 1 ((rds.map (·.committed.length)).sum) := by
  rw [run_applied, h0, contiguous_flatten 0 rds hc]
  simp

/-! ## restart -/

theorem start_in_code : Generated.raftBootstrapsOnlyOnEmptyStore = true ∧ Generated.raftReceiveSteps = true := by decide

/-- **C05 (restart).** A replica whose log store is not empty resumes from it, whatever peers the
caller passes: same term, same vote, next index after the stored log. -/
theorem restart_resumes_from_store (peers : List Nat) (d : Dur) :
    resume (startMode Generated.raftBootstrapsOnlyOnEmptyStore peers false) d = ⟨d.term, d.vote, d.last + 1⟩ := by
  simp [start_in_code.1, startMode, resume]

theorem bootstrap_iff (peers : List Nat) (e : Bool) :
    startMode true peers e = .bootstrap ↔ (peers ≠ [] ∧ e = true) := by
  simp [startMode]

/-- the alternative (bootstrap whenever peers are given): a replica with a stored log of 7 entries
at term 3 starts appending at index 1 in term 0 — it forks its own history -/
theorem bootstrap_over_store_forks :
    resume (startMode false [1, 2, 3] false) ⟨3, 2, 7⟩ = ⟨0, 0, 1⟩ := by decide

/-! ## election safety from the two host obligations -/

open Anndb.Quorum in
/-- **C05 (one leader per term).** Replicas `0 … n-1`; replica `r` sees, in one term, the vote
requests and crash/restarts `evs r`, stores its vote before the grant leaves (`run_attests`) and
resumes from the store (`restart_resumes_from_store`). Two candidates that both hold the grants of
a majority are one candidate. -/
theorem at_most_one_leader_per_term (n : Nat) (evs : Nat → List VEv) (c₁ c₂ : Nat) (Q₁ Q₂ : List Nat)
    (h₁ : Majority n Q₁) (h₂ : Majority n Q₂)
    (g₁ : ∀ r ∈ Q₁, c₁ ∈ (Voter.init.run true (evs r)).sent)
    (g₂ : ∀ r ∈ Q₂, c₂ ∈ (Voter.init.run true (evs r)).sent) : c₁ = c₂ := by
  obtain ⟨r, hr1, hr2⟩ := quorum_intersection n Q₁ Q₂ h₁ h₂
  exact Voter.vote_once (evs r) c₁ c₂ (g₁ r hr1) (g₂ r hr2)

open Anndb.Quorum in
/-- the other order (grant leaves, crash, restart without the vote): three replicas, two majorities,
two leaders in one term -/
theorem grant_before_save_elects_two :
    let evs : Nat → List VEv := fun r =>
      if r = 0 then [.request 1] else if r = 1 then [.request 1, .restart, .request 2] else [.request 2]
    Majority 3 [0, 1] ∧ Majority 3 [1, 2] ∧
    (∀ r ∈ [0, 1], 1 ∈ (Voter.init.run false (evs r)).sent) ∧
    (∀ r ∈ [1, 2], 2 ∈ (Voter.init.run false (evs r)).sent) :=
  ⟨⟨by decide, by decide, by decide⟩, ⟨by decide, by decide, by decide⟩, by decide, by decide⟩

open Anndb.Quorum in
/-- **C05 (one leader in every term).** The same with terms: a request of a newer term makes the
replica adopt it and frees its vote, term and vote are stored together before the grant leaves.
Whatever requests and crashes each replica sees, no term has two candidates holding a majority. -/
theorem at_most_one_leader_in_any_term (n : Nat) (evs : Nat → List VEvT) (t c₁ c₂ : Nat) (Q₁ Q₂ : List Nat)
    (h₁ : Majority n Q₁) (h₂ : Majority n Q₂)
    (g₁ : ∀ r ∈ Q₁, (t, c₁) ∈ (VoterT.init.run true (evs r)).sent)
    (g₂ : ∀ r ∈ Q₂, (t, c₂) ∈ (VoterT.init.run true (evs r)).sent) : c₁ = c₂ := by
  obtain ⟨r, hr1, hr2⟩ := quorum_intersection n Q₁ Q₂ h₁ h₂
  exact VoterT.vote_once (evs r) t c₁ c₂ (g₁ r hr1) (g₂ r hr2)

/-! ## non-vacuity -/

def sampleRun : List Ready :=
  [ ⟨none, some (2, 3), some 5, [⟨.vote, 2, 4, false, 1⟩], []⟩,           -- campaign: vote for itself, ask 1
    ⟨some 3, none, some 6, [⟨.app, 2, 5, false, 1⟩], [1, 2]⟩,              -- elected: leader sends before saving
    ⟨some 1, some (3, 1), none, [⟨.voteResp, 3, 0, false, 1⟩], [3]⟩ ]      -- steps down, grants a vote

example : RunOK 3 ⟨⟨1, 0, 4⟩, 0, []⟩ sampleRun := by
  refine ⟨⟨by decide, by decide⟩, ⟨by decide, by decide⟩, ⟨by decide, by decide⟩, trivial⟩

example : Contiguous 0 sampleRun := by
  refine ⟨by decide, by decide, by decide, trivial⟩

example : (run canonical 3 ⟨⟨1, 0, 4⟩, 0, []⟩ sampleRun).1.applied = [1, 2, 3] := by decide

/-- a snapshot whose send failed is always reported to raft as failed — a follower in the snapshot
state is sent nothing else until then — and a peer a send to which failed is dialled again
(regenerated) -/
theorem snapshot_send_failure_always_reported : Generated.snapshotSendFailureAlwaysReported = true := by decide

/-! ## a snapshot for a replica that fell behind a compaction

"Once faults stop, all live replicas converge" needs the leader to send the snapshot *again* when a
transfer was lost. etcd/raft does that only when the host reports the failure. -/

/-- **never waiting for a snapshot that nobody sends**: if every failed send of a snapshot is reported
to raft, no reachable state has the leader in the snapshot state with nothing in flight and nothing
installed — whatever messages are lost, and how often -/
theorem snapshot_transfer_never_stuck (c : SnapTransfer.Cfg) (r : SnapTransfer.Reach true c) :
    ¬ SnapTransfer.Stuck c := by
  -- no induction: wherever a step starts, it does not end in a stuck state
  cases r with
  | init => exact fun h => nomatch h.1
  | step _ s =>
    cases s with
    | send => exact fun h => nomatch h.2.1      -- in flight
    | deliver => exact fun h => nomatch h.2.2   -- installed
    | ack => exact fun h => nomatch h.1         -- `replicate`
    | lose => exact fun h => nomatch h.1        -- reported: back to `probe`

/-- a transport that keeps a lost transfer to itself (seeded change C05-E: "the deadline passed, the
snapshot may still arrive") leaves the follower stuck after one lost message -/
theorem unreported_loss_is_stuck : ∃ c, SnapTransfer.Reach false c ∧ SnapTransfer.Stuck c :=
  ⟨_, SnapTransfer.Reach.init |>.step (.send _ rfl rfl) |>.step (.lose _ rfl), rfl, rfl, rfl⟩

end Anndb.RaftLoop
