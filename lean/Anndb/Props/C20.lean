import Anndb.Model.Members
import Anndb.Generated
/-!
# C20 — every member's view of the membership converges and survives restart
-/
namespace Anndb.Members

/-- the rules the code has are `Rules.code` (regenerated) -/
theorem rules_in_code :
    Generated.connAddNodeUpdatesAddress = Rules.code.update ∧
    Generated.zeroGroupFeedsBook = Rules.code.skipEmpty ∧
    Generated.bookTravelsWithSnapshot = Rules.code.snapBook ∧
    Generated.bootstrapEntryCarriesAddress = Rules.code.bootAddr := by decide

/-- `AddNode` / `RemoveNode` return only after the change is applied on the answering member, and the
join handshake streams the current members before it waits for the change (regenerated) -/
theorem ack_in_code :
    Generated.membershipAckAfterApply = true ∧ Generated.handshakeListsMembersFirst = true := by decide

/-! ## one entry -/

/-- an entry that does not name `j` leaves `j`'s address alone -/
def Names (j : Nat) : ZEntry → Prop
  | .add id _ => id = j
  | .remove id => id = j
  | .other => False

theorem connAdd_cases (r : Rules) (b : Book) (id : Nat) (a : Addr) :
    connAdd r b id a = b.set id a ∨ connAdd r b id a = b := by
  fun_cases connAdd r b id a
  case case3 => exact .inr rfl
  all_goals exact .inl rfl

theorem connAdd_other (r : Rules) (b : Book) (id j : Nat) (a : Addr) (h : id ≠ j) :
    connAdd r b id a j = b j := by
  rcases connAdd_cases r b id a with e | e
  · rw [e]; exact if_neg (Ne.symm h)
  · rw [e]

theorem applyEntry_other (r : Rules) (b : Book) (e : ZEntry) (j : Nat) (h : ¬ Names j e) :
    applyEntry r b e j = b j := by
  cases e with
  | add id a =>
    show (if _ then b else connAdd r b id a) j = b j
    split
    · rfl
    · exact connAdd_other r b id j a h
  | remove id => exact if_neg (Ne.symm h)
  | other => rfl

theorem replay_other (r : Rules) (b : Book) (log : List ZEntry) (j : Nat) (h : ∀ e ∈ log, ¬ Names j e) :
    replay r b log j = b j :=
  List.foldlRecOn (motive := fun b' => b' j = b j) log _ rfl fun b' hb e he =>
    (applyEntry_other r b' e j (h e he)).trans hb

theorem replay_append (r : Rules) (b : Book) (l₁ l₂ : List ZEntry) :
    replay r b (l₁ ++ l₂) = replay r (replay r b l₁) l₂ := List.foldl_append

theorem connAdd_code (b : Book) (id : Nat) (a : Addr) (ha : a ≠ "") :
    connAdd Rules.code b id a = b.set id a := by
  fun_cases connAdd Rules.code b id a
  case case3 old hb hc =>
    -- not replaced: the address recorded is `a` already
    have hoa : old = a := by simpa [Rules.code, ha] using hc
    funext i
    unfold Book.set
    split
    · next hi => rw [hi, hb, hoa]
    · rfl
  all_goals rfl

theorem applyEntry_code_add (b : Book) (id : Nat) (a : Addr) :
    applyEntry Rules.code b (.add id a) = if a = "" then b else b.set id a := by
  unfold applyEntry
  by_cases ha : a = ""
  · simp [ha, Rules.code]
  · simp [ha, connAdd_code b id a ha]

/-- **C20 (join).** Once a join entry `add j a` (a ≠ "") is applied, and until a later entry names `j`
again, every member that has applied the log lists `j` at `a` — whatever it listed before. -/
theorem listed_after_join (b : Book) (pre post : List ZEntry) (j : Nat) (a : Addr) (ha : a ≠ "")
    (hpost : ∀ e ∈ post, ¬ Names j e) :
    replay Rules.code b (pre ++ [.add j a] ++ post) j = some a := by
  rw [replay_append, replay_append, replay_other _ _ post j hpost]
  show applyEntry Rules.code _ (.add j a) j = some a
  rw [applyEntry_code_add, if_neg ha]
  exact if_pos rfl

/-- **C20 (removal).** After `remove j` nobody who applied it lists `j`. -/
theorem gone_after_remove (r : Rules) (b : Book) (pre post : List ZEntry) (j : Nat)
    (hpost : ∀ e ∈ post, ¬ Names j e) :
    replay r b (pre ++ [.remove j] ++ post) j = none := by
  rw [replay_append, replay_append, replay_other _ _ post j hpost]
  exact if_pos rfl

/-! ## restart -/

/-- **C20 (restart, log replay).** Restart + full replay gives the running book (cut = 0). -/
theorem restart_from_log (r : Rules) (self : Nat) (a : Addr) (sn : Nat) (sa : Addr) (log : List ZEntry) :
    restarted r self a sn sa log 0 = running r self a log := by
  simp [restarted, running]

theorem replay_or (c : Book) (log : List ZEntry) (h : ∀ id, .remove id ∈ log → c id = none) (j : Nat) :
    replay Rules.code c log j = (replay Rules.code Book.empty log j).or (c j) := by
  refine List.foldl_rel (a := c) (b := Book.empty) (r := fun b1 b0 => ∀ j, b1 j = (b0 j).or (c j))
    (fun _ => rfl) ?_ j
  intro e he b1 b0 hb j
  cases e with
  | other => exact hb j
  | add id x =>
    rw [applyEntry_code_add, applyEntry_code_add]
    split
    · exact hb j
    · unfold Book.set
      split
      · rfl
      · exact hb j
  | remove id =>
    show (if j = id then none else b1 j) = (if j = id then none else b0 j).or (c j)
    split
    -- what `h` is for: a removed id must not fall back on `c`
    · next hj => rw [hj, h id he]; rfl
    · exact hb j

def NonEmpty (b : Book) : Prop := ∀ j x, b j = some x → x ≠ ""

theorem nonEmpty_replay (b : Book) (log : List ZEntry) (h : NonEmpty b) : NonEmpty (replay Rules.code b log) := by
  refine List.foldlRecOn log _ h ?_
  intro b hb e _ j x
  cases e with
  | other => exact hb j x
  | add id y =>
    rw [applyEntry_code_add]
    split
    · exact hb j x
    · next hy =>
      unfold Book.set
      split
      · intro hx; exact Option.some.inj hx ▸ hy
      · exact hb j x
  | remove id =>
    show (if j = id then none else b j) = some x → _
    split
    · nofun
    · exact hb j x

theorem mem_idsOf (j : Nat) (log : List ZEntry) : j ∈ idsOf log ↔ ∃ e ∈ log, Names j e := by
  induction log with
  | nil => simp [idsOf]
  | cons x t ih => cases x <;> simp [idsOf, Names, ih, eq_comm]

theorem replay_untouched (r : Rules) (b : Book) (log : List ZEntry) (j : Nat) (h : j ∉ idsOf log) :
    replay r b log j = b j :=
  replay_other r b log j fun e he hn => h ((mem_idsOf j log).mpr ⟨e, he, hn⟩)

/-! ### installing the snapshot's book -/

theorem installStep_other (r : Rules) (s acc : Book) (i j : Nat) (h : i ≠ j) :
    installStep r s acc i j = acc j := by
  unfold installStep
  cases s i with
  | none => rfl
  | some a => exact connAdd_other _ _ _ _ _ h

theorem installFold_notMem (s acc : Book) (ids : List Nat) (j : Nat) (h : j ∉ ids) :
    installFold Rules.code s acc ids j = acc j :=
  List.foldlRecOn (motive := fun b => b j = acc j) ids _ rfl fun b hb i hi =>
    (installStep_other _ s b i j fun hij => h (hij ▸ hi)).trans hb

theorem installFold_apply (s acc : Book) (ids : List Nat) (j : Nat) (hs : NonEmpty s) :
    installFold Rules.code s acc ids j = if j ∈ ids then (s j).or (acc j) else acc j := by
  induction ids generalizing acc with
  | nil => rfl
  | cons i t ih =>
    show installFold Rules.code s (installStep Rules.code s acc i) t j = _
    rw [ih]
    by_cases hij : i = j
    · have : installStep Rules.code s acc i j = (s j).or (acc j) := by
        unfold installStep
        subst hij
        cases hsi : s i with
        | none => rfl
        | some x =>
          show connAdd Rules.code acc i x i = _
          rw [connAdd_code _ _ _ (hs i x hsi)]
          exact if_pos rfl
      rw [this, ← Option.or_assoc, Option.or_self, ite_self, if_pos (hij ▸ List.mem_cons_self)]
    · rw [installStep_other _ _ _ _ _ hij]
      simp only [List.mem_cons, Ne.symm hij, false_or]

theorem keptBook_single (self : Nat) (a : Addr) (s : Book) :
    keptBook self (Book.single self a) s = Book.single self a := by
  unfold keptBook keptBookIf
  split
  · rfl
  · funext i
    unfold Book.single
    split
    · rfl
    · cases s i <;> rfl

theorem running_eq (self : Nat) (a : Addr) (log : List ZEntry) (h : ∀ e ∈ log, e ≠ .remove self) (j : Nat) :
    running Rules.code self a log j = (replay Rules.code Book.empty log j).or (Book.single self a j) :=
  replay_or _ log (fun id hid => if_neg fun hs : id = self => h _ hid (hs ▸ rfl)) j

/-- **C20 (restart after compaction).** For every log in which the restarting member is not
removed, every cut, and every snapshotting member that the log prefix itself lists: installing
the snapshot taken after `cut` entries and replaying the rest gives exactly the book of a member
that applied the whole log. -/
theorem restart_recovers (self : Nat) (a : Addr) (sn : Nat) (sa : Addr) (log : List ZEntry) (cut : Nat)
    (hself : ∀ e ∈ log, e ≠ .remove self)
    (hsnr : ∀ e ∈ log.take cut, e ≠ .remove sn)
    (hsn : (replay Rules.code Book.empty (log.take cut)) sn ≠ none) :
    restarted Rules.code self a sn sa log cut = running Rules.code self a log := by
  by_cases hc : cut = 0
  · subst hc; exact restart_from_log _ _ _ _ _ _
  have hrun : running Rules.code self a log =
      replay Rules.code (running Rules.code self a (log.take cut)) (log.drop cut) := by
    rw [running, running, ← replay_append, List.take_append_drop]
  rw [hrun]
  simp only [restarted, hc, if_false]
  show replay _ (restoreBook _ _ _ _ _) _ = _
  congr 1
  -- the snapshotting member is listed by the prefix, so its book is the one the prefix builds from nothing
  have hS : running Rules.code sn sa (log.take cut) = replay Rules.code Book.empty (log.take cut) := by
    funext i
    rw [running_eq sn sa _ hsnr]
    unfold Book.single
    split
    · next hi => rw [hi, Option.or_of_isSome (Option.isSome_iff_ne_none.mpr hsn)]
    · exact Option.or_none
  funext j
  rw [hS, running_eq self a _ (fun e he => hself e (List.mem_of_mem_take he)), restoreBook, keptBook_single,
    installFold_apply _ _ _ _ (nonEmpty_replay Book.empty _ (by intro _ _ h; cases h))]
  split
  · rfl
  · next hj => rw [replay_untouched _ _ _ j fun h => hj (List.mem_cons_of_mem _ h)]; rfl

/-! ## a joiner and the snapshots that are older than its join

A node that joins learns the current members from the handshake. While it catches up it is sent
whatever snapshot the leader holds — possibly one cut before members joined that the handshake
listed, among them the leader itself. -/

theorem connAdd_ne_none (r : Rules) (b : Book) (id j : Nat) (a : Addr) (h : b j ≠ none) :
    connAdd r b id a j ≠ none := by
  rcases connAdd_cases r b id a with e | e
  · rw [e]
    unfold Book.set
    split
    · nofun
    · exact h
  · rw [e]; exact h

/-- **a snapshot that does not list the joiner drops nothing**: every address the joiner holds it
still holds after installing it (so it can go on answering whoever leads) -/
theorem old_snapshot_drops_nothing (self : Nat) (b s : Book) (ids : List Nat) (hs : s self = none)
    (j : Nat) (hj : b j ≠ none) : restoreBook Rules.code self b s ids j ≠ none := by
  have hkept : keptBook self b s = b := by simp [keptBook, keptBookIf, hs]
  rw [restoreBook, hkept]
  refine List.foldlRecOn (motive := fun acc : Book => acc j ≠ none) ids _ hj fun acc hacc i _ => ?_
  unfold installStep
  cases s i with
  | none => exact hacc
  | some x => exact connAdd_ne_none _ acc i j x hacc

/-- the scenario: node 1 cut a snapshot while alone; 2 and 3 joined; 3 learnt of 2 from the
handshake and is then sent that snapshot. With the rule "drop whatever the snapshot does not list"
it forgets node 2 — if node 2 leads by then, node 3 can never answer it. With the code's rule it
keeps it. -/
theorem joiner_keeps_the_late_leader :
    let handshake : Book := fun i => if i = 1 then some "a1" else if i = 2 then some "a2" else if i = 3 then some "a3" else none
    let snap : Book := Book.single 1 "a1"
    installFold Rules.code snap (keptBookIf false 3 handshake snap) [1] 2 = none ∧
    restoreBook Rules.code 3 handshake snap [1] 2 = some "a2" := by
  decide

/-! ## the repaired behaviours, as explicit logs (the rules before the repairs) -/

/-- the bootstrap entry carried no address and was recorded as it was: a joiner (node 2) that
restarts and replays its log lists node 1 at the empty address -/
theorem old_empty_address :
    running Rules.old 2 "a2" [bootEntry Rules.old 1 "a1", .add 2 "a2"] 1 = some "" := by decide

/-- a member announcing a new address was kept at the old one -/
theorem old_stale_address :
    running Rules.old 1 "a1" [.add 1 "a1", .add 2 "a2", .add 2 "a2'"] 2 = some "a2" := by decide

/-- the snapshot did not carry the book: node 1 restarts after a compaction behind the joins and
no longer lists nodes 2 and 3 -/
theorem old_lost_after_compaction :
    restarted Rules.old 1 "a1" 1 "a1" [.add 1 "a1", .add 2 "a2", .add 3 "a3", .other] 4 2 = none ∧
    running Rules.old 1 "a1" [.add 1 "a1", .add 2 "a2", .add 3 "a3", .other] 2 = some "a2" := by decide

/-! ## non-vacuity: the same logs under the code's rules -/

example : running Rules.code 2 "a2" [bootEntry Rules.code 1 "a1", .add 2 "a2"] 1 = some "a1" := by decide
example : running Rules.code 1 "a1" [.add 1 "a1", .add 2 "a2", .add 2 "a2'"] 2 = some "a2'" := by decide
example : restarted Rules.code 1 "a1" 1 "a1" [.add 1 "a1", .add 2 "a2", .add 3 "a3", .other] 4 2 = some "a2" := by decide
example : (replay Rules.code Book.empty ([ZEntry.add 1 "a1", .add 2 "a2", .add 3 "a3", .other].take 4)) 1 ≠ none := by decide


/-! ## reaching a member that left and joined again (`RaftTransport`'s client cache, `cluster.Conn`)

Listing a member is not reaching it. The transport keeps one client per peer; `Conn.RemoveNode` closes
the connection under it. `drops` is whether a failed send makes the transport forget the cached client
(the regenerated fact `snapshotSendFailureAlwaysReported` covers that line too). -/

/-- what a member holds about one peer: its address in the book, and the cached client (the address it
was dialled at, and whether its connection is still open) -/
structure Peer where
  book : Option String
  cache : Option (String × Bool)
deriving DecidableEq, Repr

/-- `Conn.RemoveNode`: the address goes, the connection is closed — the transport's cached client
still points at it -/
def Peer.remove (p : Peer) : Peer := ⟨none, p.cache.map fun c => (c.1, false)⟩

/-- the peer is admitted again (membership entry applied) -/
def Peer.add (p : Peer) (a : String) : Peer := { p with book := some a }

/-- one send to the peer, which listens at `at_`: delivered or not, and what the member holds afterwards -/
def Peer.send (drops : Bool) (at_ : String) (p : Peer) : Peer × Bool :=
  match p.cache with
  | some (a, true) => if a = at_ then (p, true) else ((if drops then { p with cache := none } else p), false)
  | some (_, false) => ((if drops then { p with cache := none } else p), false)
  | none =>
    match p.book with
    | some a => ({ p with cache := some (a, true) }, a = at_)
    | none => (p, false)

/-- **a member that left and joined again is reached**: whatever the sender held about it, after it has
applied the removal and the re-admission the second send at the latest is delivered -/
theorem rejoined_member_is_reached (p : Peer) (a : String) :
    let p1 := (p.remove.add a)
    ((Peer.send true a (Peer.send true a p1).1).2 = true) := by
  cases p with
  | mk book cache =>
    cases cache with
    | none => simp [Peer.remove, Peer.add, Peer.send]
    | some c => cases c with
      | mk addr isOpen => simp [Peer.remove, Peer.add, Peer.send]

/-- a transport that keeps its cached client for ever (the code before the repair D34) never reaches
it again: every send goes to the closed connection and leaves everything as it was -/
theorem stale_client_never_reaches (book : Option String) (addr a : String) (isOpen : Bool) :
    let p1 := ((⟨book, some (addr, isOpen)⟩ : Peer).remove.add a)
    Peer.send false a p1 = (p1, false) := by
  simp [Peer.remove, Peer.add, Peer.send]


/-- a failed send makes the transport dial the peer again, and a replica change for a partition whose
group is not loaded (a member replaying its own removal) is an error, not a nil dereference (regenerated) -/
theorem rejoin_repairs_in_code : Generated.snapshotSendFailureAlwaysReported = true ∧
    Generated.replicaChangeChecksGroupLoaded = true := by decide

end Anndb.Members
