import Anndb.Proofs.SimdExact
import Anndb.Proofs.SimdRound
import Anndb.Generated
/-!
# C15 — AVX/SSE distance kernels agree with the portable kernels and stay in bounds (partial)

What is proved (about the lane-faithful model of `simd/cpp/*.cpp` and `native_impl.go`, the same
definitions the `simd` engine runs at `Float32` and compares bit for bit with the real kernels):
in *exact* arithmetic the blocked 8-lane and 4-lane reductions compute the plain sum, so AVX, SSE
and the portable kernel are the same function, symmetric, non-negative and zero on self; and the
loops read exactly the indices `0 … n-1`. What cannot be a theorem here: floating-point rounding
(the engine checks a forward error bound and the properties directly on the real kernels) and the
memory accesses of the hand-assembled `.s` files (the engine places vectors against an
inaccessible page). Where floating point breaks an exact identity the proofs rely on
(`sqrt(x·x) = |x|`, `‖a‖²·‖b‖²` representable) the real kernels do deviate: known findings.
-/
namespace Anndb.C15
open Anndb.Simd

variable {α : Type} [Field α] [LinearOrder α] [IsStrictOrderedRing α] (sq : α → α)

/-- **AVX = SSE = portable** for the (squared) Euclidean distance, every length, exact arithmetic -/
theorem euclid_agree (a b : List α) (h : a.length = b.length) :
    euclidSq (exactOps α sq (|·|)) 8 a b = euclidSq (exactOps α sq (|·|)) 4 a b ∧
    euclidSq (exactOps α sq (|·|)) 8 a b = seqSum (exactOps α sq (|·|)) (sqDiff (exactOps α sq (|·|))) a b :=
  euclid_impls_agree sq a b h

/-- **Euclidean: symmetric, non-negative, zero on self** (both lane widths) -/
theorem euclid_metric (w : Nat) (hw : w = 8 ∨ w = 4) (a b : List α) (h : a.length = b.length) :
    euclidSq (exactOps α sq (|·|)) w a b = euclidSq (exactOps α sq (|·|)) w b a ∧
    0 ≤ euclidSq (exactOps α sq (|·|)) w a b ∧ euclidSq (exactOps α sq (|·|)) w a a = 0 :=
  euclidSq_props sq w hw a b h

/-- **Manhattan: blocked = portable, symmetric, non-negative, zero on self** — under the identity
`sqrt (x·x) = |x|`, which the vector part of the kernels relies on -/
theorem manhattan_metric (hsq : ∀ x : α, sq (x * x) = |x|) (w : Nat) (hw : w = 8 ∨ w = 4)
    (a b : List α) (h : a.length = b.length) :
    manhattan (exactOps α sq (|·|)) w a b = nativeManhattan (exactOps α sq (|·|)) a b ∧
    manhattan (exactOps α sq (|·|)) w a b = manhattan (exactOps α sq (|·|)) w b a ∧
    0 ≤ manhattan (exactOps α sq (|·|)) w a b ∧ manhattan (exactOps α sq (|·|)) w a a = 0 :=
  manhattan_props sq hsq w hw a b h

/-- **Cosine: the blocked sums are the plain sums; symmetric** -/
theorem cosine_symmetric (w : Nat) (hw : w = 8 ∨ w = 4) (a b : List α) (h : a.length = b.length) :
    cosine (exactOps α sq (|·|)) w a b = cosine (exactOps α sq (|·|)) w b a :=
  cosine_symm sq w hw a b h

/-- **Cosine: AVX = SSE = portable in exact arithmetic**, given that the square root is
multiplicative on the two squared norms — the one identity the two formulas differ by -/
theorem cosine_agree (w : Nat) (hw : w = 8 ∨ w = 4) (a b : List α) (h : a.length = b.length)
    (hmul : sq ((List.zipWith (fun x _ => x * x) a b).sum * (List.zipWith (fun _ y => y * y) a b).sum) =
      sq (List.zipWith (fun x _ => x * x) a b).sum * sq (List.zipWith (fun _ y => y * y) a b).sum) :
    cosine (exactOps α sq (|·|)) w a b = nativeCosine (exactOps α sq (|·|)) a b :=
  cosine_impls_agree sq w hw a b h hmul

/-- **In bounds, each element once**: the vector loop and the scalar tail of the C++ kernels read
exactly the indices `0 … n-1` -/
theorem loads (w n : Nat) : vecLoads w n ++ tailLoads w n = List.range n ∧
    ∀ i ∈ vecLoads w n ++ tailLoads w n, i < n :=
  ⟨loads_exact w n, fun i hi => loads_in_bounds w n i hi⟩

/-- the Go wrappers pass `len(a)` as the element count and the address of element 0 of each slice,
and `Cosine.Distance` wraps the kernel's value in `Abs` (regenerated) -/
theorem wrappers : Generated.simdWrappersPassLen = true ∧ Generated.cosineDistanceAbs = true := by decide

/-! ### alignment

The AVX kernels load with `vmovups` (any alignment). The SSE kernels load four floats with aligned
loads: the `j`-th vector load of an operand that starts at byte address `p` reads address
`p + 16 j` and faults unless that is a multiple of 16. `sseSpaceImpl` therefore calls an SSE kernel
only when no vector load happens (`n < 4`) or `(pa | pb) & 15 = 0`. -/

/-- the guard's bit test says: both operands start on a 16-byte boundary -/
theorem guard_iff (pa pb : Nat) : (pa ||| pb) % 16 = 0 ↔ pa % 16 = 0 ∧ pb % 16 = 0 := by
  have h16 : (16 : Nat) = 2 ^ 4 := rfl
  rw [h16, Nat.or_mod_two_pow, Nat.or_eq_zero_iff]

/-- **no aligned load faults**: under the guard every vector load of either operand is 16-byte
aligned, for every length -/
theorem sse_loads_aligned (pa pb n : Nat) (hg : n < 4 ∨ (pa ||| pb) % 16 = 0) (j : Nat) (hj : j < n / 4) :
    (pa + 16 * j) % 16 = 0 ∧ (pb + 16 * j) % 16 = 0 := by
  rcases hg with hn | hg
  · rw [Nat.div_eq_of_lt hn] at hj; exact absurd hj (Nat.not_lt_zero j)
  · rw [Nat.add_mul_mod_self_left, Nat.add_mul_mod_self_left]
    exact (guard_iff pa pb).mp hg

/-- the guard, and the AVX implementation's exclusive use of the AVX kernels, are in the code on
this run (regenerated) -/
theorem alignment_in_code :
    Generated.sseGuardedByAlignment = true ∧ Generated.avxImplCallsAvxKernelsOnly = true := by decide

/-- why `|` and not `&` (seeded change C15-C): `pa & pb & 15 = 0` lets an operand at offset 4 through -/
theorem and_guard_is_wrong : (0 &&& 4) % 16 = 0 ∧ ¬ ((0 : Nat) % 16 = 0 ∧ (4 : Nat) % 16 = 0) := by decide

/-! ### up to floating-point rounding

The same lane-faithful definitions with every operation followed by a rounding `fl` that obeys the
standard model `|fl x - x| ≤ u |x|` (float32, round to nearest: `u = 2⁻²⁴`; valid while nothing
overflows or underflows — the four known findings are exactly inputs where it does). -/

/-- **AVX, SSE and the portable kernel agree up to rounding** (squared Euclidean distance, every
length `n`): each is within `((1+u)^(n+6) - 1) · S` of the exact `S = Σ (aᵢ-bᵢ)²`, hence any two of
them within twice that. -/
theorem euclid_agree_up_to_rounding (fl : α → α) (u : α) (M : StdModel fl u) (a b : List α) (h : a.length = b.length) :
    let S := (List.zipWith (sqDiff (exactOps α sq (|·|))) a b).sum
    let R := roundedOps fl sq
    (|euclidSq R 8 a b - S| ≤ gam u (a.length + 6) * S ∧
     |euclidSq R 4 a b - S| ≤ gam u (a.length + 6) * S ∧
     |seqSum R (sqDiff R) a b - S| ≤ gam u (a.length + 6) * S) ∧
    |euclidSq R 8 a b - seqSum R (sqDiff R) a b| ≤ 2 * (gam u (a.length + 6) * S) ∧
    |euclidSq R 4 a b - seqSum R (sqDiff R) a b| ≤ 2 * (gam u (a.length + 6) * S) :=
  have ⟨hb, hs⟩ := euclidSq_err sq M a b h
  have h8 := hb 8 (Or.inl rfl)
  have h4 := hb 4 (Or.inr rfl)
  ⟨⟨h8.1, h4.1, hs.1⟩, h8.dist hs, h4.dist hs⟩

/-- in the familiar linear form: relative deviation at most `4 (n+6) u` between any two
implementations as long as `2 (n+6) u ≤ 1` (for float32 and `n ≤ 4096`: below `10⁻³`) -/
theorem euclid_agree_linear (fl : α → α) (u : α) (M : StdModel fl u) (a b : List α) (h : a.length = b.length)
    (hn : 2 * (((a.length + 6 : Nat) : α) * u) ≤ 1) :
    let S := (List.zipWith (sqDiff (exactOps α sq (|·|))) a b).sum
    let R := roundedOps fl sq
    |euclidSq R 8 a b - seqSum R (sqDiff R) a b| ≤ 4 * (((a.length + 6 : Nat) : α) * u) * S ∧
    |euclidSq R 4 a b - seqSum R (sqDiff R) a b| ≤ 4 * (((a.length + 6 : Nat) : α) * u) * S :=
  have ⟨hb, hs⟩ := euclidSq_err sq M a b h
  ⟨(hb 8 (Or.inl rfl)).dist_linear M.u_nonneg hn hs, (hb 4 (Or.inr rfl)).dist_linear M.u_nonneg hn hs⟩

/-- **The cosine kernels' three sums** (dot product, both squared norms) up to rounding, blocked
and sequential. (The final `1 - dot / sqrt(‖a‖²‖b‖²)` is not carried further: its two forms differ
exactly where the norm product leaves the float32 range — the known findings.) -/
theorem cosine_sums_up_to_rounding (fl : α → α) (u : α) (M : StdModel fl u) (w : Nat) (hw : w = 8 ∨ w = 4)
    (a b : List α) (h : a.length = b.length) :
    let R := roundedOps fl sq
    |blocked R w R.mul R.mul a b - (List.zipWith (· * ·) a b).sum| ≤ gam u (a.length + 4) * (List.zipWith (fun x y => |x * y|) a b).sum ∧
    |seqSum R R.mul a b - (List.zipWith (· * ·) a b).sum| ≤ gam u (a.length + 4) * (List.zipWith (fun x y => |x * y|) a b).sum ∧
    |blocked R w (fun x _ => R.mul x x) (fun x _ => R.mul x x) a b - (List.zipWith (fun x _ => x * x) a b).sum|
        ≤ gam u (a.length + 4) * (List.zipWith (fun x _ => x * x) a b).sum :=
  ⟨(blocked_sum_err sq M w hw (mul_err sq M) (mul_err sq M) a b h).1,
   ((seqSum_err sq M (mul_err sq M) a b).mono M.u_nonneg (Nat.add_le_add_left (by decide) _)).1,
   (blocked_sum_err sq M w hw (fun x _ => mul_self_err sq M x) (fun x _ => mul_self_err sq M x) a b h).1⟩

/-- **Manhattan up to rounding**, under the one step that is not covered by the standard model:
`sqrt(d·d)` is as accurate as three roundings of `|d|` (`hsqrt`). Where `d·d` underflows or
overflows in float32 that fails — known findings `C15/avx/manhattan/square-*`. -/
theorem manhattan_agree_up_to_rounding (fl : α → α) (u : α) (M : StdModel fl u) (w : Nat) (hw : w = 8 ∨ w = 4)
    (hsqrt : ∀ x y, Err u 3 ((roundedOps fl sq).sqrt (sqDiff (roundedOps fl sq) x y)) |x - y| |x - y|)
    (a b : List α) (h : a.length = b.length) :
    let S := (List.zipWith (fun x y => |x - y|) a b).sum
    |manhattan (roundedOps fl sq) w a b - S| ≤ gam u (a.length + 6) * S ∧
    |nativeManhattan (roundedOps fl sq) a b - S| ≤ gam u (a.length + 6) * S :=
  ⟨(blocked_sum_err sq M w hw hsqrt (fun x y => (absDiff_err sq M x y).mono M.u_nonneg (by decide)) a b h).1,
   ((seqSum_err sq M (absDiff_err sq M) a b).mono M.u_nonneg (Nat.add_le_add_left (by decide) _)).1⟩

/-- non-vacuity: roundings that obey the standard model exist — the identity (`u = 0`), and a
rounding that errs by the full `u` on every value -/
example : StdModel (fun x : α => x) 0 := ⟨le_refl _, by intro x; simp⟩
example (u : α) (hu : 0 ≤ u) : StdModel (fun x : α => x * (1 + u)) u :=
  ⟨hu, by
    intro x
    have : x * (1 + u) - x = u * x := by ring
    rw [this, abs_mul, abs_of_nonneg hu]⟩
/-- and with exact rounding and an exact square root, the `sqrt(d·d)` hypothesis holds -/
example (hsq : ∀ x : α, sq (x * x) = |x|) (x y : α) :
    Err (0 : α) 3 ((roundedOps (fun z => z) sq).sqrt (sqDiff (roundedOps (fun z => z) sq) x y)) |x - y| |x - y| := by
  have e : (roundedOps (fun z => z) sq).sqrt (sqDiff (roundedOps (fun z => z) sq) x y) = sq ((x - y) * (x - y)) := rfl
  rw [e, hsq]
  exact (Err.exact 0 (x - y)).abs.mono le_rfl (Nat.zero_le 3)

/-- non-vacuity over ℚ-like arithmetic is immediate: the hypotheses are only equal lengths -/
example (a b : List α) (h : a.length = b.length) : 0 ≤ euclidSq (exactOps α sq (|·|)) 8 a b :=
  (euclid_metric sq 8 (Or.inl rfl) a b h).2.1


/-- the wrappers are re-entrant: results come back through locals of the call, and the wrapper files
hold no package-level variable (regenerated; seeded change C15-E returns through one shared struct) -/
theorem wrappers_return_through_locals : Generated.simdWrappersReturnThroughLocals = true := by decide

/-- the cosine distance is the formula at every magnitude: no implementation answers a constant for
short vectors (regenerated; seeded change C07-E treats `|a|²|b|² < 1e-8` as "zero vector") -/
theorem cosine_has_no_magnitude_guard : Generated.cosineHasNoMagnitudeGuard = true := by decide

end Anndb.C15
