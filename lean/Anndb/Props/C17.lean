import Anndb.Model.SizeInfo
import Anndb.Generated
/-!
# C17 — Dataset size is the sum of its partitions, each counted once
-/
namespace Anndb.C17
open Anndb.SizeInfo

theorem sumOk_eq_sum (l : List (Option Nat)) : sumOk l = (l.filterMap id).sum := by
  induction l with
  | nil => rfl
  | cons x t ih => cases x <;> simp [sumOk, ih]

theorem fails_eq_count (l : List (Option Nat)) : fails l = l.count none := by
  induction l with
  | nil => rfl
  | cons x t ih => cases x <;> simp [fails, ih]

theorem sumOk_append (a b : List (Option Nat)) : sumOk (a ++ b) = sumOk a + sumOk b := by
  simp [sumOk_eq_sum]

theorem fails_append (a b : List (Option Nat)) : fails (a ++ b) = fails a + fails b := by
  simp [fails_eq_count]

theorem sumOk_perm {l₁ l₂ : List (Option Nat)} (h : l₁.Perm l₂) : sumOk l₁ = sumOk l₂ := by
  rw [sumOk_eq_sum, sumOk_eq_sum]
  exact (h.filterMap id).sum_nat

theorem fails_perm {l₁ l₂ : List (Option Nat)} (h : l₁.Perm l₂) : fails l₁ = fails l₂ := by
  rw [fails_eq_count, fails_eq_count]
  exact h.count_eq none

def nils : List Bool → Nat
  | [] => 0
  | false :: t => nils t + 1
  | true :: t => nils t

def errs : List Bool → Nat
  | [] => 0
  | false :: t => errs t
  | true :: t => errs t + 1

theorem nils_eq_count (l : List Bool) : nils l = l.count false := by
  induction l with
  | nil => rfl
  | cons h t ih => cases h <;> simp [nils, ih]

theorem errs_eq_count (l : List Bool) : errs l = l.count true := by
  induction l with
  | nil => rfl
  | cons h t ih => cases h <;> simp [errs, ih]

structure Inv (locals : List Nat) (remotes : List (Option Nat)) (c : Cfg) : Prop where
  sum : c.total + sumOk c.pend = locals.sum + sumOk remotes
  pendLen : c.pend.length ≤ remotes.length
  closedPend : c.closed = true → c.pend = []
  -- either the collector is still within the local nils, or the channel is closed and drained and all locals are consumed
  phase : c.got + nils c.buf = locals.length ∨ (c.closed = true ∧ c.buf = [] ∧ locals.length ≤ c.got)
  errsLeft : c.out = none → errs c.buf + fails c.pend = fails remotes
  okOut : ∀ t, c.out = some (some t) → t = c.total ∧ c.pend = [] ∧ fails remotes = 0

theorem inv_init (locals : List Nat) (remotes : List (Option Nat)) : Inv locals remotes (init locals remotes) := by
  refine ⟨rfl, Nat.le_refl _, by simp [init], .inl ?_, fun _ => ?_, by simp [init]⟩ <;>
    simp [init, nils_eq_count, errs_eq_count, List.map_const', List.count_replicate]

theorem inv_step (locals : List Nat) (remotes : List (Option Nat)) (c c' : Cfg) (h : Inv locals remotes c)
    (s : Step (locals.length + remotes.length) c c') : Inv locals remotes c' := by
  obtain ⟨h1, h2, h3, h4, h5, h6⟩ := h
  have pending (hne : c.pend ≠ []) : c.got + nils c.buf = locals.length ∧ ∀ t, c.out ≠ some (some t) :=
    ⟨h4.resolve_right fun hc => hne (h3 hc.1), fun t ht => hne (h6 t ht).2.1⟩
  cases s with
  | workerOk pre post sz hp =>
    obtain ⟨hph, hout⟩ := pending (by simp [hp])
    -- up to order, the lookup that finishes is the head of the pending list, where `sumOk` and `fails`
    -- compute
    have hperm : c.pend.Perm (some sz :: (pre ++ post)) := hp ▸ List.perm_middle
    refine ⟨?_, ?_, fun hc => by simpa [hp] using h3 hc, .inl hph, fun ho => ?_,
      fun t ht => absurd ht (hout t)⟩
    · rw [sumOk_perm hperm] at h1; exact (Nat.add_assoc ..).trans h1
    · rw [hperm.length_eq] at h2; exact Nat.le_of_succ_le h2
    · rw [← h5 ho, fails_perm hperm]; rfl
  | workerFail pre post hp =>
    obtain ⟨hph, hout⟩ := pending (by simp [hp])
    have hperm : c.pend.Perm (none :: (pre ++ post)) := hp ▸ List.perm_middle
    refine ⟨?_, ?_, fun hc => by simpa [hp] using h3 hc, .inl ?_, fun ho => ?_,
      fun t ht => absurd ht (hout t)⟩
    · rwa [sumOk_perm hperm] at h1
    · rw [hperm.length_eq] at h2; exact Nat.le_of_succ_le h2
    · simpa [nils_eq_count] using hph
    · rw [← h5 ho, fails_perm hperm, errs_eq_count, errs_eq_count, List.count_append]
      exact Nat.add_right_comm ..
  | close hp hc => exact ⟨h1, h2, fun _ => hp, .inl (h4.resolve_right (by simp [hc])), h5, h6⟩
  | recvNil rest ho hg hb =>
    refine ⟨h1, h2, h3, .inl ?_, fun _ => by simpa [hb, errs] using h5 ho, by simp [ho]⟩
    have := h4.resolve_right (by simp [hb])
    rw [hb] at this
    exact (Nat.add_right_comm ..).trans this
  | recvErr rest ho hg hb =>
    exact ⟨h1, h2, h3, .inl (by simpa [hb, nils] using h4.resolve_right (by simp [hb])), by simp, by simp⟩
  | recvClosed ho hg hc hb =>
    refine ⟨h1, h2, h3, .inr ⟨hc, hb, Nat.le_succ_of_le ?_⟩, h5, by simp [ho]⟩
    rcases h4 with h | ⟨_, _, hl⟩
    · rw [hb] at h; exact Nat.le_of_eq h.symm
    · exact hl
  | finish ho hg =>
    refine ⟨h1, h2, h3, h4, by simp, fun t ht => ⟨(Option.some.inj (Option.some.inj ht)).symm, ?_⟩⟩
    rcases h4 with h | ⟨hc, hb, _⟩
    · -- every receive took a local partition's nil: there is no remote partition
      obtain rfl : remotes = [] := List.eq_nil_of_length_eq_zero (by omega)
      exact ⟨List.eq_nil_of_length_eq_zero (by simpa using h2), rfl⟩
    · have := h5 ho
      rw [hb, h3 hc] at this
      exact ⟨h3 hc, this.symm⟩

theorem inv_reach (locals : List Nat) (remotes : List (Option Nat)) (c : Cfg)
    (r : Reach (locals.length + remotes.length) (init locals remotes) c) : Inv locals remotes c := by
  induction r with
  | refl => exact inv_init locals remotes
  | step _ s ih => exact inv_step _ _ _ _ ih s

/-- **Success means the exact sum, in every schedule**: whenever `SizeInfo` reports a number,
no remote lookup failed and the number is Σ local sizes + Σ remote sizes, each partition once —
whatever the completion order of the remote lookups and the moment the channel is closed. -/
theorem size_sum (locals : List Nat) (remotes : List (Option Nat)) (c : Cfg) (t : Nat)
    (r : Reach (locals.length + remotes.length) (init locals remotes) c) (ho : c.out = some (some t)) :
    fails remotes = 0 ∧ t = locals.sum + (remotes.filterMap id).sum := by
  have inv := inv_reach locals remotes c r
  obtain ⟨ht, hp, hf⟩ := inv.okOut t ho
  refine ⟨hf, ?_⟩
  have := inv.sum
  rw [hp] at this
  simp only [sumOk, Nat.add_zero] at this
  rw [ht, this, sumOk_eq_sum]

/-- **A failing lookup is never masked**: if any remote lookup fails, no schedule reports a number. -/
theorem size_error_is_loud (locals : List Nat) (remotes : List (Option Nat)) (c : Cfg) (t : Nat)
    (r : Reach (locals.length + remotes.length) (init locals remotes) c) (hf : 0 < fails remotes) :
    c.out ≠ some (some t) :=
  fun ho => Nat.ne_of_gt hf (size_sum locals remotes c t r ho).1

/-- **each goroutine must ask for its own partition**: with the loop variable shared, three
remote partitions of sizes 1, 2, 3 are reported as 9 (the last one three times), never 6 (D12) -/
theorem shared_variable_counterexample :
    (asked false [1, 2, 3]).sum = 9 ∧ (asked true [1, 2, 3]).sum = 6 := by decide

theorem asked_captured (sizes : List Nat) : asked true sizes = sizes := rfl

/-! ## what the code does (regenerated facts) -/

theorem code_shape :
    Generated.sizeInfoGoroutineOwnPartition = true ∧ Generated.sizeInfoChanCapIsPartitionCount = true ∧
    Generated.sizeInfoLocalPushesNil = true ∧ Generated.sizeInfoRemoteSendsOnlyErrors = true ∧
    Generated.sizeInfoClosesAfterWait = true ∧ Generated.sizeInfoCollectsOncePerPartition = true ∧
    Generated.partitionInfoRejectsNonHosted = true := by decide

/-- every addition to the two totals is an atomic add, for local partitions as for remote answers
(regenerated; the size trials also run under the race detector) -/
theorem totals_added_atomically : Generated.sizeInfoTotalsAddedAtomically = true := by decide

/-! ## non-vacuity -/

example : ∃ c, Reach 2 (init [5] [some 7]) c ∧ c.out = some (some 12) :=
  ⟨_, Reach.refl |>.step (.workerOk _ [] [] 7 rfl) |>.step (.recvNil _ [] rfl (by decide) rfl)
    |>.step (.close _ rfl rfl) |>.step (.recvClosed _ rfl (by decide) rfl rfl) |>.step (.finish _ rfl rfl), rfl⟩

end Anndb.C17
