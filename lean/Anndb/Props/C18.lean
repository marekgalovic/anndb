import Anndb.Model.Allocator
import Anndb.Generated
import Anndb.Model.Unload
/-!
# C18 — Membership changes and restarts never wedge a node's control plane (partial)

`no_wedge` is proved under two stated side conditions about the *situation* (not about the code):
the allocator loop does not have to propose-and-wait on this notification (`proposes = false`:
this node is not the modifier of an under-replicated / affected partition) and no watched
partition has an empty replica list (`needsAddr = false`). Where a side condition fails, the
wedge is real and is proved as a reachable stuck state.
-/
namespace Anndb.C18
open Anndb.Allocator

/-- under the two side conditions no `commit` ever enters `todo` and the loop never reaches `wantAddrR` / `waitCommit` -/
theorem side_reach (p : Params) (hprop : p.proposes = false) (haddr : p.needsAddr = false)
    (todo : List Ev) (hnc : .commit ∉ todo) (c : Cfg) (r : Reach p (init todo) c) :
    .commit ∉ c.todo ∧ c.l ≠ .wantAddrR ∧ c.l ≠ .waitCommit := by
  induction r with
  | refl => exact ⟨hnc, by simp [init], by simp [init]⟩
  | step _ s ih =>
    obtain ⟨h1, h2, h3⟩ := ih
    cases s with
    | confLock t _ ht | watchLock t _ ht =>
      exact ⟨fun h => h1 (ht ▸ List.mem_cons_of_mem _ h), h2, h3⟩
    | applyCommit t _ ht => exact absurd (ht ▸ List.mem_cons_self) h1
    | confSend | watchSend => exact ⟨h1, h2, h3⟩
    | recvNotif | takePartR | handlerDone => exact ⟨h1, nofun, nofun⟩
    | handlerAddr _ hn => cases haddr.symm.trans hn
    | handlerPropose _ _ hp => cases hprop.symm.trans hp
    | takeAddrR hl => exact absurd hl h2
    | commitSeen hl => exact absurd hl h3

/-- **No wedge**: with the send outside the lock, capacity ≥ 1, no propose-and-wait in the loop and
no empty replica list, every reachable configuration that is not quiescent can take a step —
whatever the interleaving of conf changes, dataset creations/deletions (watch/unwatch) and the
allocator loop, and however long the burst (a restart's replay included). -/
theorem no_wedge (p : Params) (hcap : 1 ≤ p.cap) (hlock : p.sendUnderLock = false)
    (hprop : p.proposes = false) (haddr : p.needsAddr = false)
    (todo : List Ev) (hnc : .commit ∉ todo)
    (c : Cfg) (r : Reach p (init todo) c) (hq : ¬ Quiescent c) : ∃ c', Step p c c' := by
  obtain ⟨hnocommit, hnaddr, hnwait⟩ := side_reach p hprop haddr todo hnc c r
  cases hl : c.l with
  | wantPartR => exact ⟨_, Step.takePartR c hl (by simp [aHoldsPartW, hlock])⟩
  | handler => exact ⟨_, Step.handlerDone c hl haddr hprop⟩
  | wantAddrR => exact absurd hl hnaddr
  | waitCommit => exact absurd hl hnwait
  | select =>
    rcases Nat.eq_zero_or_pos c.chan with hch0 | hch
    · cases ha : c.a with
      | confLocked => exact ⟨_, Step.confSend c ha (hch0 ▸ hcap)⟩
      | watchSending => exact ⟨_, Step.watchSend c ha hl⟩
      | idle =>
        cases ht : c.todo with
        | nil => exact absurd ⟨ht, ha, hl, hch0⟩ hq
        | cons e t =>
          cases e with
          | conf => exact ⟨_, Step.confLock c t ha ht⟩
          | watch => exact ⟨_, Step.watchLock c t ha ht (by simp [lHoldsPartR, hl])⟩
          | commit => exact absurd (by rw [ht]; exact List.mem_cons_self) hnocommit
    · exact ⟨_, Step.recvNotif c hl hch⟩

/-- the driver's successor function is exactly the transition relation -/
theorem mem_succ_iff (p : Params) (c c' : Cfg) : c' ∈ succ p c ↔ Step p c c' := by
  -- `succ` is an append of guarded singletons: membership is a disjunction of `guard ∧ c' = target`
  simp only [succ, List.mem_append, List.mem_ite_nil_right, List.mem_singleton]
  constructor
  · rintro (((((((((h | ⟨⟨ha, hc⟩, rfl⟩) | ⟨⟨ha, hl⟩, rfl⟩) | ⟨⟨hl, hc⟩, rfl⟩) | ⟨⟨hl, ha⟩, rfl⟩) |
      ⟨⟨hl, hn⟩, rfl⟩) | ⟨⟨hl, ha⟩, rfl⟩) | ⟨⟨hl, hn, hp⟩, rfl⟩) | ⟨⟨hl, hn, hp⟩, rfl⟩) | ⟨⟨hl, hp⟩, rfl⟩)
    · split at h
      · obtain rfl := List.mem_singleton.mp h; exact .confLock c _ ‹_› ‹_›
      · obtain ⟨hl, h⟩ := List.mem_ite_nil_right.mp h
        obtain rfl := List.mem_singleton.mp h; exact .watchLock c _ ‹_› ‹_› hl
      · obtain rfl := List.mem_singleton.mp h; exact .applyCommit c _ ‹_› ‹_›
      · cases h
    · exact .confSend c ha hc
    · exact .watchSend c ha hl
    · exact .recvNotif c hl hc
    · exact .takePartR c hl ha
    · exact .handlerAddr c hl hn
    · exact .takeAddrR c hl ha
    · exact .handlerPropose c hl hn hp
    · exact .handlerDone c hl hn hp
    · exact .commitSeen c hl hp
  · -- each constructor's premises make its own disjunct `True`
    intro s
    cases s <;> simp only [*, and_self, true_and, or_true, true_or, if_true, List.mem_singleton]

/-! ## where the side conditions fail, the wedge is real -/

def stuck (p : Params) (c : Cfg) : Prop := ¬ Quiescent c ∧ ∀ c', ¬ Step p c c'

theorem stuck_of_succ_nil {p : Params} {c : Cfg} (hq : ¬ Quiescent c) (h : succ p c = []) : stuck p c :=
  ⟨hq, fun c' s => by simpa [h] using (mem_succ_iff p c c').mpr s⟩

/-- **D19 (known finding)**: the loop proposes a replica change and waits for its commit while the
apply goroutine, which would have to apply that very entry, is blocked handing a `watch` to the
loop. One membership notification followed by one dataset creation is enough. -/
theorem wedge_when_loop_waits_for_commit :
    ∃ c, Reach ⟨10, false, true, false⟩ (init [.conf, .watch]) c ∧ stuck ⟨10, false, true, false⟩ c := by
  refine ⟨⟨[.commit], .watchSending, .waitCommit, 0, true⟩, ?_,
    stuck_of_succ_nil (fun h => nomatch h.2.1) (by decide)⟩
  exact Reach.refl |>.step (.confLock _ _ rfl rfl) |>.step (.confSend _ rfl (by decide))
    |>.step (.watchLock _ _ rfl rfl rfl) |>.step (.recvNotif _ rfl (by decide)) |>.step (.takePartR _ rfl rfl)
    |>.step (.handlerPropose _ rfl rfl rfl)

/-- a watched partition with an empty replica list makes the loop take `addressesMu` while the apply
goroutine may hold it blocked on a full notification channel (capacity 1 shown; the code's 10 needs
a burst of 11) -/
theorem wedge_when_loop_needs_addresses :
    ∃ c, Reach ⟨1, false, false, true⟩ (init [.conf, .conf, .conf]) c ∧ stuck ⟨1, false, false, true⟩ c := by
  refine ⟨⟨[], .confLocked, .wantAddrR, 1, false⟩, ?_,
    stuck_of_succ_nil (fun h => nomatch h.2.1) (by decide)⟩
  exact Reach.refl |>.step (.confLock _ _ rfl rfl) |>.step (.confSend _ rfl (by decide))
    |>.step (.recvNotif _ rfl (by decide)) |>.step (.takePartR _ rfl rfl) |>.step (.confLock _ _ rfl rfl)
    |>.step (.confSend _ rfl (by decide)) |>.step (.confLock _ _ rfl rfl) |>.step (.handlerAddr _ rfl rfl)

/-- **D18 (fixed)**: sending on `updatesC` while holding `partitionsMu` wedges as soon as the loop has
taken a notification and wants the read lock -/
theorem wedge_when_sending_under_lock :
    ∃ c, Reach ⟨10, true, false, false⟩ (init [.conf, .watch]) c ∧ stuck ⟨10, true, false, false⟩ c := by
  refine ⟨⟨[], .watchSending, .wantPartR, 0, false⟩, ?_,
    stuck_of_succ_nil (fun h => nomatch h.2.1) (by decide)⟩
  exact Reach.refl |>.step (.confLock _ _ rfl rfl) |>.step (.confSend _ rfl (by decide))
    |>.step (.watchLock _ _ rfl rfl rfl) |>.step (.recvNotif _ rfl (by decide))

/-! ## what the code does (regenerated facts) -/

/-- `watch`/`unwatch` send after releasing `partitionsMu`; `Conn.AddNode/RemoveNode` send the
notification while holding `addressesMu` on a channel of capacity 10; the loop's node-change
handlers hold `partitionsMu.RLock` and call `Conn.NodeIds()` only for a partition with an empty
replica list; `loadRaft` releases every lock it takes on every path -/
theorem code_shape :
    Generated.allocatorSendsAfterUnlock = true ∧ Generated.connNotifyChanCap = 10 ∧
    Generated.connNotifiesUnderAddressesMu = true ∧ Generated.allocatorNodeIdsOnlyWhenEmpty = true ∧
    Generated.partitionRaftMuBalanced = true := by decide

/-- …and (the reason this property is only partially established) the loop does propose and wait
for a catalogue commit inside the handler, without a timeout -/
theorem loop_waits_for_commit_in_handler : Generated.allocatorHandlerWaitsForCommit = true := by decide

/-- whoever waits for a catalogue change (the allocator loop: without a timeout) is woken on every
path through its apply function: no return that knows the notification id comes without a Notify
(regenerated; seeded change C18-D returns early for a replica that is listed already) -/
theorem catalogue_apply_always_notifies : Generated.catalogueApplyAlwaysNotifies = true := by decide

/-- proposing a replica change for a partition whose raft group is not loaded on this node returns an
error (regenerated): the allocator's goroutine survives a member that proposes its own removal -/
theorem replica_change_checks_group_loaded : Generated.replicaChangeChecksGroupLoaded = true := by decide

/-! ## unloading a raft group (dataset deleted, replica moved away, catalogue replayed after a restart)

`unloadRaft` stops the group and deletes its log. The group's loop may hold a `Ready` whose
`wal.Save` is still to come; if that write finds the log gone the node ends itself (`log.Fatal`).
Replaying "create dataset, delete dataset" after a restart does exactly this to a group that has
just started. Repaired in `/repo`: `Stop` returns only once the loop has ended. -/

/-- **no write after the delete**: when `Stop` waits for the loop, in every interleaving of the loop
and the unloader the log is deleted only after the loop has ended, so no write ever finds it gone -/
theorem unload_never_fatal (c : Unload.Cfg) (r : Unload.Reach true c) :
    c.fatal = false ∧ (c.u = Unload.UPc.deleted → c.loop = Unload.LoopPc.ended) := by
  induction r with
  | init => exact ⟨rfl, nofun⟩
  | @step c c' _ s ih =>
    obtain ⟨hf, hd⟩ := ih
    cases s with
    | take _ hu => exact ⟨hf, fun h => by simp [hu] at h⟩
    | save hl =>
      -- the loop still holds a Ready, so the log is not deleted yet
      have hdel : c.u ≠ .deleted := fun h => by simpa [hl] using hd h
      exact ⟨by simp [hf, hdel], fun h => absurd h hdel⟩
    | finish => exact ⟨hf, fun _ => rfl⟩
    | stop => exact ⟨hf, nofun⟩
    | delete _ hw => exact ⟨hf, fun _ => hw rfl⟩

/-- without the wait (the code before the repair) the loop's pending write can come after the
delete: take a Ready, stop, delete the log, write — the node is gone -/
theorem unload_without_wait_can_be_fatal : ∃ c : Unload.Cfg, Unload.Reach false c ∧ c.fatal = true :=
  ⟨_, Unload.Reach.init (waits := false) |>.step (.take _ rfl rfl) |>.step (.stop _ rfl)
    |>.step (.delete _ rfl nofun) |>.step (.save _ rfl), rfl⟩

/-- the wait is in the code on this run, and `unloadRaft` deletes the log after `Stop` (regenerated) -/
theorem stop_waits_for_loop_in_code : Generated.raftStopWaitsForLoop = true := by decide

/-! ## non-vacuity: a burst longer than the channel drains completely -/

example : ∃ c', Step ⟨10, false, false, false⟩ (init [.conf, .watch, .conf]) c' :=
  no_wedge ⟨10, false, false, false⟩ (by decide) rfl rfl rfl _ (by decide) _ .refl (by simp [Quiescent, init])

end Anndb.C18
