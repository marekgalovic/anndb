import Anndb.Model.Notify
import Anndb.Generated
import Anndb.Model.BatchFanIn
/-!
# C11 — Write acknowledgements are truthful and reach the right caller

The notification protocol (`Model/Notify.lean`) as an LTS over all interleavings of one caller
with the apply loop — in particular "apply completes before the caller starts waiting" — plus the
decision facts regenerated from the write paths of `storage/dataset.go` / `storage/partition.go`.
Callers do not interact: every notificator operation is keyed by a fresh v4 uuid, so the
statement for one caller is the statement for each, and "to no one else" is the keying itself.
-/
namespace Anndb.C11
open Anndb.Notify

/-- invariant of the protocol when the channel has room for one outcome (capacity ≥ 1) -/
structure Inv (c : Cfg) : Prop where
  capPos : 1 ≤ c.cap
  chan : c.chanExists = true ↔
    (c.pc = .created ∨ c.pc = .proposed ∨ c.pc = .waiting ∨ (∃ o, c.pc = .got o) ∨ c.pc = .timedOut)
  appliedPc : c.applied ≠ none → c.pc ≠ .init ∧ c.pc ≠ .created
  notifiedApplied : c.notified = true → c.applied ≠ none
  bufOk : ∀ o, c.buf = some o → c.applied = some o ∧ c.notified = true ∧ c.dropped = false
  gotOk : ∀ o, (c.pc = .got o ∨ c.pc = .removed (some o)) → c.applied = some o ∧ c.notified = true
  dropOk : c.dropped = true → c.pc = .removed none
  bufNone : c.notified = false → c.buf = none
  noLost : c.notified = true → c.dropped = false → (c.pc = .proposed ∨ c.pc = .waiting) →
    c.buf = c.applied

theorem inv_init (cap : Nat) (h : 1 ≤ cap) : Inv (init cap) := by
  refine ⟨h, ?_, ?_, ?_, ?_, ?_, ?_, ?_, ?_⟩ <;> simp [init]

theorem Inv.applied_none {c : Cfg} (h : Inv c) (hp : c.pc = .init ∨ c.pc = .created) : c.applied = none :=
  Decidable.byContradiction fun hx => hp.elim (h.appliedPc hx).1 (h.appliedPc hx).2

theorem Inv.notified_false {c : Cfg} (h : Inv c) (ha : c.applied = none) : c.notified = false :=
  Bool.eq_false_iff.mpr fun hn => h.notifiedApplied hn ha

theorem Inv.dropped_false {c : Cfg} (h : Inv c) (hp : c.pc ≠ .removed none) : c.dropped = false :=
  Bool.eq_false_iff.mpr fun hd => hp (h.dropOk hd)

theorem Inv.removed_of_no_chan {c : Cfg} (h : Inv c) (ha : c.applied ≠ none) (hn : c.notified = false)
    (hc : c.chanExists = false) : c.pc = .removed none := by
  have hlive := mt h.chan.mpr (by simp [hc])
  have hpc := h.appliedPc ha
  cases hp : c.pc with
  | removed x =>
    cases x with
    | none => rfl
    | some o => simpa [hn] using (h.gotOk o (.inr hp)).2
  | _ => simp [hp] at hlive hpc

theorem inv_step (c c' : Cfg) (h : Inv c) (s : Step c c') : Inv c' := by
  -- `h1 … h9` and the nine components of each case, in the order of `Inv`:
  -- capPos, chan, appliedPc, notifiedApplied, bufOk, gotOk, dropOk, bufNone, noLost
  have ⟨h1, h2, h3, h4, h5, h6, h7, h8, h9⟩ := h
  cases s with
  | create hp =>
    have ha := h.applied_none (.inl hp)
    have hd := h.dropped_false (by simp [hp])
    exact ⟨h1, by simp, (absurd ha ·), h4, h5, by simp, by simp [hd], h8, by simp⟩
  | propose hp =>
    have ha := h.applied_none (.inr hp)
    have hd := h.dropped_false (by simp [hp])
    exact ⟨h1, by simpa [hp] using h2, (absurd ha ·), h4, h5, by simp, by simp [hd], h8,
      by simp [h.notified_false ha]⟩
  | apply o hpc ha =>
    have hn := h.notified_false ha
    exact ⟨h1, h2, fun _ => hpc, by simp, by simp [h8 hn], fun o' ho' => by simpa [ha] using (h6 o' ho').1,
      h7, h8, by simp [hn]⟩
  | notifyBuffered o ha hn hc hcap hb =>
    have hd := h.dropped_false fun hp => by simpa [hp] using h2.mp hc
    exact ⟨h1, h2, h3, by simp [ha], by simp [ha, hd], fun o' ho' => by simpa [hn] using (h6 o' ho').2, h7,
      by simp, by simp [ha]⟩
  | notifyHandoff o ha hn hc hcap hw => exact absurd hcap (Nat.ne_of_gt h1)
  | notifyDropped o ha hn hcond =>
    have hpc : c.pc = .removed none := by
      rcases hcond with hce | ⟨hc0, _⟩ | ⟨_, hb⟩
      · exact h.removed_of_no_chan (by simp [ha]) hn hce
      · exact absurd hc0 (Nat.ne_of_gt h1)
      · exact absurd (h8 hn) hb
    exact ⟨h1, h2, h3, by simp [ha], by simp [h8 hn], fun o' ho' => by simpa [hn] using (h6 o' ho').2,
      fun _ => hpc, by simp, by simp⟩
  | startWait hp =>
    have hd := h.dropped_false (by simp [hp])
    exact ⟨h1, by simpa [hp] using h2, by simp, h4, h5, by simp, by simp [hd], h8,
      fun hn hdd _ => h9 hn hdd (.inl hp)⟩
  | recv o hp hb =>
    obtain ⟨ha, hn, hd⟩ := h5 o hb
    exact ⟨h1, by simpa [hp] using h2, by simp, h4, by simp, by simp [ha, hn], by simp [hd], by simp, by simp⟩
  | timeout hp =>
    have hd := h.dropped_false (by simp [hp])
    exact ⟨h1, by simpa [hp] using h2, by simp, h4, h5, by simp, by simp [hd], h8, by simp⟩
  | removeGot o hp =>
    have hd := h.dropped_false (by simp [hp])
    exact ⟨h1, by simp, by simp, h4, h5, by simpa using h6 o (.inl hp), by simp [hd], h8, by simp⟩
  | removeTimedOut hp => exact ⟨h1, by simp, by simp, h4, h5, by simp, by simp, h8, by simp⟩

theorem inv_reach (cap : Nat) (hcap : 1 ≤ cap) (c : Cfg) (r : Reach (init cap) c) : Inv c := by
  induction r with
  | refl => exact inv_init cap hcap
  | step _ s ih => exact inv_step _ _ ih s

/-- **What a caller receives is the outcome of its own applied proposal** (every interleaving). -/
theorem received_is_truthful (cap : Nat) (hcap : 1 ≤ cap) (c : Cfg) (r : Reach (init cap) c) (o : Nat)
    (h : c.pc = .got o ∨ c.pc = .removed (some o)) : c.applied = some o :=
  ((inv_reach cap hcap c r).gotOk o h).1

/-- **An applied outcome is lost only to a caller that already gave up**: with a buffered
channel, `Notify` drops the outcome only when the caller has timed out and removed its channel —
never because apply finished before the caller started waiting. -/
theorem dropped_only_after_timeout (cap : Nat) (hcap : 1 ≤ cap) (c : Cfg) (r : Reach (init cap) c)
    (h : c.dropped = true) : c.pc = .removed none :=
  (inv_reach cap hcap c r).dropOk h

/-- **No lost wake-up**: a caller that starts waiting after (or while) its proposal was applied
and notified finds the outcome in its channel, so its `select` can take it — whatever the
relative timing of commit and caller. -/
theorem no_lost_wakeup (cap : Nat) (hcap : 1 ≤ cap) (c : Cfg) (r : Reach (init cap) c)
    (hn : c.notified = true) (hw : c.pc = .waiting ∨ c.pc = .proposed) :
    ∃ o, c.buf = some o ∧ c.applied = some o := by
  have inv := inv_reach cap hcap c r
  have hb := inv.noLost hn (inv.dropped_false (by rcases hw with h | h <;> simp [h])) hw.symm
  obtain ⟨o, ha⟩ := Option.ne_none_iff_exists'.mp (inv.notifiedApplied hn)
  exact ⟨o, hb.trans ha, ha⟩

/-- **With an unbuffered channel the outcome is lost** (D10): create, propose, apply and notify
before the caller reaches its select; the caller then waits for a notification that was dropped. -/
theorem cap0_counterexample :
    ∃ c, Reach (init 0) c ∧ c.applied = some 7 ∧ c.notified = true ∧ c.dropped = true ∧
      c.pc = .waiting ∧ c.buf = none :=
  ⟨_, Reach.refl |>.step (.create _ rfl) |>.step (.propose _ rfl) |>.step (.apply _ 7 (by decide) rfl)
    |>.step (.notifyDropped _ 7 rfl rfl (.inr (.inl (by decide)))) |>.step (.startWait _ rfl),
    rfl, rfl, rfl, rfl, rfl⟩

/-- the LTS above has no step that ends the writer's wait other than a delivered answer or its own
timeout; in the code that rests on the channel being closed by nobody but the waiter (its deferred
`Remove`): a channel closed under a waiting writer yields the zero value, which every write path reads
as "applied, no error" (seeded C11-F released the writers when a replica is unloaded) -/
theorem waiter_channel_closed_only_by_the_waiter :
    Generated.notificationChannelClosedOnlyByItsWaiter = true := by decide

/-- the system with one more step: somebody other than the waiter closes its channel while it waits; the
receive then yields the channel's zero value — outcome 0, "no error" -/
inductive StepForeign : Cfg → Cfg → Prop where
  | base {c c' : Cfg} : Step c c' → StepForeign c c'
  | foreignClose (c : Cfg) : c.pc = .waiting → c.buf = none →
      StepForeign c { c with pc := .got 0, chanExists := false }

inductive ReachForeign (c0 : Cfg) : Cfg → Prop where
  | refl : ReachForeign c0 c0
  | step {c c'} : ReachForeign c0 c → StepForeign c c' → ReachForeign c0 c'

/-- **With a foreign close an unapplied write is acknowledged**: `received_is_truthful` fails in the
extended system. -/
theorem foreign_close_acknowledges_an_unapplied_write :
    ∃ c, ReachForeign (init 1) c ∧ c.pc = .got 0 ∧ c.applied = none :=
  ⟨_, ReachForeign.refl |>.step (.base (.create _ rfl)) |>.step (.base (.propose _ rfl))
    |>.step (.base (.startWait _ rfl)) |>.step (.foreignClose _ rfl rfl), rfl, rfl⟩

/-! ## what the code does (regenerated facts) -/

/-- every notification channel is created with capacity 1, the apply paths notify without
blocking and with the id carried in the entry, and each caller removes only its own channel -/
theorem notification_shape :
    Generated.notifCreateCaps = [1, 1, 1, 1] ∧ Generated.notifyAllNonBlocking = true ∧
    Generated.notifyKeyedByEntryId = true ∧ Generated.notifRemoveOwnIdDeferred = true ∧
    Generated.notifIdsRandomUuid = true := by decide

/-- decision logic of the write paths: the dimension check comes before anything is proposed or
proxied; a failed dial and a failed RPC on the proxy path are returned, not swallowed; the wait
for commit returns the derived (timeout) context's error, never nil, when nothing was notified;
the batch paths pre-check the dimension per item and merge the partitions' error maps -/
theorem write_path_decisions :
    Generated.writeDimCheckFirst = true ∧ Generated.writeProxyErrorsReturned = true ∧
    Generated.proposeTimeoutReturnsDerivedCtxErr = true ∧ Generated.batchDimPrecheckPerItem = true := by decide

/-! ## batches: an error for exactly the ids that failed

A batch call fans out to one worker per owning partition and merges their per-id error maps. An id
without a reported error counts as written — so the collector must never take an "empty map" that no
worker sent. -/

theorem batch_inv (n : Nat) (c : BatchFanIn.Cfg) (r : BatchFanIn.Reach n true c) :
    c.pending + c.got = n ∧ c.zeros = 0 ∧ (c.closed = true → c.pending = 0) := by
  induction r with
  | init => simp [BatchFanIn.init]
  | @step c c' _ s ih =>
    obtain ⟨h1, h2, h3⟩ := ih
    cases s with
    | deliver hp hl => exact ⟨by simp; omega, h2, fun hc => absurd (h3 hc) (Nat.ne_of_gt hp)⟩
    | silent ha hp => cases ha
    | close hp hc => exact ⟨h1, h2, fun _ => hp⟩
    | zero hc hl => exfalso; have := h3 hc; omega

/-- **every value the collector takes is a worker's answer**, in every schedule: with workers that
always answer, a collector that has taken its `n` values has `n` real results and not one zero value
of the closed channel -/
theorem batch_collects_only_real_answers (n : Nat) (c : BatchFanIn.Cfg) (r : BatchFanIn.Reach n true c)
    (hc : BatchFanIn.Collected n c) : c.got = n ∧ c.zeros = 0 := by
  obtain ⟨_, h2, _⟩ := batch_inv n c r
  exact ⟨by simpa [BatchFanIn.Collected, h2] using hc, h2⟩

/-- a worker that can return without an answer (seeded change C11-D: a local batch that ran into the
partition's own proposal timeout) lets the collector finish on the closed channel's zero value: the
call succeeds and reports no error for ids that were never written -/
theorem silent_worker_is_read_as_success :
    ∃ c, BatchFanIn.Reach 1 false c ∧ BatchFanIn.Collected 1 c ∧ c.got = 0 :=
  ⟨_, BatchFanIn.Reach.init |>.step (.silent _ rfl (by decide)) |>.step (.close _ rfl rfl)
    |>.step (.zero _ rfl (by decide)), rfl, rfl⟩

/-- every path through the batch worker ends in exactly one send of its result (regenerated) -/
theorem batch_worker_always_answers : Generated.batchWorkerAlwaysAnswers = true := by decide

/-! ## non-vacuity -/

example : ∃ c, BatchFanIn.Reach 3 true c ∧ BatchFanIn.Collected 3 c ∧ c.closed = true :=
  ⟨_, BatchFanIn.Reach.init |>.step (.deliver _ (by decide) (by decide))
    |>.step (.deliver _ (by decide) (by decide)) |>.step (.deliver _ (by decide) (by decide))
    |>.step (.close _ rfl rfl), rfl, rfl⟩

/-- the good path is reachable with capacity 1 even when apply comes first -/
example : ∃ c, Reach (init 1) c ∧ c.pc = .got 7 :=
  ⟨_, Reach.refl |>.step (.create _ rfl) |>.step (.propose _ rfl) |>.step (.apply _ 7 (by decide) rfl)
    |>.step (.notifyBuffered _ 7 rfl rfl rfl (by decide) rfl) |>.step (.startWait _ rfl)
    |>.step (.recv _ 7 rfl rfl), rfl⟩

end Anndb.C11
