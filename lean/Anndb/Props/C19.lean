import Anndb.Proofs.HeapLawful
import Anndb.Proofs.PQLemmas
import Anndb.Generated
/-!
# C19 — Priority queues pop in order; reversing yields an independent queue

Model: `Anndb.Heap` (`container/heap`'s `up`/`down`/`Init`/`Push`/`Pop` verbatim over
arrays) with the repo's `Less` for min (`ltMin`) and max (`ltMax`) queues; `Reverse` is
"copy the slice, flip the order, `heap.Init`". The same definitions are what the `pq` engine's
model driver executes against the real `utils.PriorityQueue`.

The theorems quantify over *every* finite sequence of push / pop / reverse operations
(`QOp`), every priority (ties included) and every queue size.
-/
namespace Anndb.C19
open Heap

/-- the model state of one `utils.priorityQueue`: its kind and its slice -/
structure QState where
  isMin : Bool
  a : Array Item

def ltOf (isMin : Bool) : Item → Item → Bool := if isMin then ltMin else ltMax

theorem ltOf_ok (b : Bool) : LtOK (ltOf b) := by
  cases b
  · exact ltMax_ok
  · exact ltMin_ok

inductive QOp where
  | push (x : Item)
  | pop
  | reverse
deriving Repr

/-- one operation on the model; `pop` on an empty queue is what the real code panics on and
leaves the state unchanged here (`none` output) -/
def step (s : QState) : QOp → QState × Option Item
  | .push x => ({ s with a := Heap.push (ltOf s.isMin) s.a x }, none)
  | .pop =>
    match Heap.pop (ltOf s.isMin) s.a with
    | none => (s, none)
    | some (x, a') => ({ s with a := a' }, some x)
  | .reverse => ({ isMin := !s.isMin, a := Heap.init (ltOf (!s.isMin)) s.a }, none)

def run (s : QState) : List QOp → QState
  | [] => s
  | op :: ops => run (step s op).1 ops

def Inv (s : QState) : Prop := IsHeap (ltOf s.isMin) s.a s.a.size

/-- `better x y`: `x` may be popped before `y` -/
def better (isMin : Bool) (x y : Item) : Prop := ltOf isMin y x = false

theorem better_min (x y : Item) : better true x y ↔ x.score ≤ y.score :=
  decide_eq_false_iff_not.trans Nat.not_lt

theorem better_max (x y : Item) : better false x y ↔ y.score ≤ x.score :=
  decide_eq_false_iff_not.trans Nat.not_lt

theorem inv_empty (b : Bool) : Inv ⟨b, #[]⟩ := by
  intro k _ hk; simp at hk

/-- **Invariant, one step**: every operation keeps heap order. -/
theorem inv_step (s : QState) (op : QOp) (h : Inv s) : Inv (step s op).1 := by
  cases op with
  | push x => exact push_heap (ltOf_ok _) s.a x h
  | pop =>
    unfold step
    cases e : Heap.pop (ltOf s.isMin) s.a with
    | none => exact h
    | some p => exact (pop_spec (ltOf_ok _) s.a h p.1 p.2 e).2.2
  | reverse => exact init_heap (ltOf_ok _) s.a

/-- **Invariant, every reachable state**: after any operation sequence from a heap-ordered
queue (in particular from the empty queue) the queue is heap ordered. -/
theorem inv_run (s : QState) (ops : List QOp) (h : Inv s) : Inv (run s ops) := by
  induction ops generalizing s with
  | nil => exact h
  | cons op ops ih => exact ih _ (inv_step s op h)

/-- **push adds exactly the pushed item** (bag = multiset, stated as a permutation). -/
theorem push_bag (s : QState) (x : Item) :
    (step s (.push x)).1.a.toList.Perm (x :: s.a.toList) :=
  push_perm s.a x

/-- **pop removes exactly the popped item, and that item is extremal**: no element of the bag is
strictly better. -/
theorem pop_bag_best (s : QState) (h : Inv s) (x : Item) (s' : QState)
    (hp : step s .pop = (s', some x)) :
    s.a.toList.Perm (x :: s'.a.toList) ∧ (∀ y ∈ s.a.toList, better s.isMin x y) ∧ s'.isMin = s.isMin := by
  unfold step at hp
  cases e : Heap.pop (ltOf s.isMin) s.a with
  | none => rw [e] at hp; cases hp
  | some p =>
    rw [e] at hp
    cases hp
    have := pop_spec (ltOf_ok _) s.a h p.1 p.2 e
    exact ⟨this.1, this.2.1, rfl⟩

/-- `pop` answers `none` (the real code panics) only on an empty queue. -/
theorem pop_none_iff (s : QState) : (step s .pop).2 = none ↔ s.a.size = 0 := by
  unfold step
  by_cases hs : 0 < s.a.size
  · rw [pop_result s.a hs]
    exact iff_of_false nofun (Nat.ne_of_gt hs)
  · have h0 := Nat.eq_zero_of_not_pos hs
    rw [pop_none s.a h0]
    exact iff_of_true rfl h0

/-- **reverse keeps the bag and flips the order.** -/
theorem reverse_bag (s : QState) :
    (step s .reverse).1.a.toList.Perm s.a.toList ∧ (step s .reverse).1.isMin = !s.isMin :=
  ⟨init_perm s.a, rfl⟩

def drain (s : QState) : Nat → List Item
  | 0 => []
  | n+1 =>
    match step s .pop with
    | (s', some x) => x :: drain s' n
    | (_, none) => []

theorem drain_eq_popN (s : QState) (h : Inv s) (n : Nat) :
    drain s n = ((goHeap (ltOf s.isMin) (ltOf_ok _)).popN n ⟨s.a, h⟩).1 := by
  induction n generalizing s with
  | zero => rfl
  | succ n ih =>
    have e := goHeap_pop_eq (ltOf s.isMin) (ltOf_ok _) ⟨s.a, h⟩
    simp only [drain, step, PQImpl.popN, ← e]
    cases (goHeap (ltOf s.isMin) (ltOf_ok _)).pop ⟨s.a, h⟩ with
    | none => rfl
    | some p => exact congrArg (p.1 :: ·) (ih ⟨s.isMin, p.2.1⟩ p.2.2)

/-- **Pops come out in order**: draining a heap-ordered queue yields a list in which every
element is at least as good as every later one (non-decreasing for a min queue,
non-increasing for a max queue), and that list is a permutation of the bag. -/
theorem drain_sorted_perm (s : QState) (h : Inv s) (n : Nat) (hn : s.a.size ≤ n) :
    (drain s n).Pairwise (better s.isMin) ∧ (drain s n).Perm s.a.toList := by
  rw [drain_eq_popN s h]
  have hl := goHeap_lawful (ltOf s.isMin) (ltOf_ok _)
  exact ⟨PQImpl.popN_pairwise hl n _, PQImpl.popN_perm_all hl n ⟨s.a, h⟩ hn⟩

theorem drain_min_nondecreasing (a : Array Item) (h : Inv ⟨true, a⟩) :
    ((drain ⟨true, a⟩ a.size).map (·.score)).Pairwise (· ≤ ·) := by
  have := (drain_sorted_perm ⟨true, a⟩ h a.size (Nat.le_refl _)).1
  rw [List.pairwise_map]
  exact this.imp (fun {x y} hxy => (better_min x y).mp hxy)

theorem drain_max_nonincreasing (a : Array Item) (h : Inv ⟨false, a⟩) :
    ((drain ⟨false, a⟩ a.size).map (·.score)).Pairwise (· ≥ ·) := by
  have := (drain_sorted_perm ⟨false, a⟩ h a.size (Nat.le_refl _)).1
  rw [List.pairwise_map]
  exact this.imp (fun {x y} hxy => (better_max x y).mp hxy)

/-! ### Reverse yields an independent queue

`Reverse` in the model returns a *new* array value. That is faithful exactly when the real
`Reverse` copies the items into a fresh backing array; `goextract` re-reads
`utils/priority_queue.go` on every run and reports whether each branch of `Reverse` builds
its queue with `make` + `copy` (`Generated.pqReverseCopies`). The pre-fix code converted the
source's slice header instead (shared backing array): `Shared` below models that variant —
two slice headers over one backing array — and `shared_reverse_breaks_source` proves, on the
7-item witness of DESIGN §3 D6, that the source queue then pops out of order. -/

/-- the code under test copies (regenerated fact; when this fails to check, `Reverse` no longer
matches the pattern the model relies on) -/
theorem reverse_copies_in_code : Generated.pqReverseCopies = true := by decide

/-- **Independence**: with a copying `Reverse`, whatever is done to the reversed queue, the
source queue's state — hence its bag, its order and all its future answers — is unchanged,
and vice versa. (In the functional model this is the statement that `run` on one value does
not mention the other; it is recorded as a theorem so that the claim is explicit.) -/
theorem reverse_independent (s : QState) (opsR opsS : List QOp) :
    let r := (step s .reverse).1
    -- operating on r does not change s, and operating on s does not change r:
    (run r opsR, run s opsS) = (run (step s .reverse).1 opsR, run s opsS) ∧
    -- r starts with the same bag, the opposite order, and is heap ordered
    r.a.toList.Perm s.a.toList ∧ r.isMin = !s.isMin ∧ Inv r := by
  intro r
  exact ⟨rfl, (reverse_bag s).1, rfl, init_heap (ltOf_ok _) s.a⟩

/-! ### The index theorems apply to the real queue -/

theorem min_lawful : Lawful (goHeap ltMin ltMin_ok) minBetter := goMinHeap_lawful
theorem max_lawful : Lawful (goHeap ltMax ltMax_ok) maxBetter := goMaxHeap_lawful

/-! ### Non-vacuity -/

/-- a concrete reachable, non-trivial state (with a tie) meets the hypotheses -/
example : Inv (run ⟨true, #[]⟩ [.push ⟨3, 1⟩, .push ⟨1, 2⟩, .push ⟨3, 3⟩, .pop, .reverse, .push ⟨2, 4⟩]) :=
  inv_run _ _ (inv_empty true)

/-- the queues compare priorities as float values (regenerated): `-0` and `+0` are one priority. The
model's priorities are the values' bit patterns with both zeros written as 0, which is the same order;
comparing raw bit patterns (seeded change C19-E) puts `-0` above everything. -/
theorem less_compares_float_values : Generated.pqLessComparesFloatValues = true := by decide

end Anndb.C19
