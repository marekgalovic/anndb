import Anndb.Proofs.HnswExact
import Anndb.Props.C01
import Anndb.Generated
/-!
# C07 — search is exact on small insert-only collections

`exact_small_collections`: for every history of inserts (any ids, vectors, metadata, level
assignment and order; a rejected duplicate changes nothing) of at most `mMax0 + 1` operations
from the empty index, every distance function (all three metrics), both selection modes with or
without candidate extension, every lawful queue, every query and every `k` with the collection
covered by the beam (`n ≤ max(ef, k)`): `search` returns

* exactly `min k n` hits (C07 needs all of them, C01 only gives "at most k"),
* in ascending score order, each a distinct stored item with its own distance (C01's clauses),
* and every stored item that is *not* returned is at least as far from the query as every hit —
  the hits are the `k` nearest (ties may be resolved either way, as for any exact ranking);
* `scores_are_the_bruteforce_ranking`: the returned score sequence *equals* the brute-force
  ranking `exactTopK k row` of the distance row.

`mMax0 + 1` is the bound of the property: with the default configuration `mMax0 = 2·M`
(`default_config`, regenerated from `index/config.go`), i.e. at most `2M+1` items. The proof is
`Proofs/HnswInsertOnly.lean` (no level-0 link is ever dropped, the level-0 graph stays symmetric
and connected), `Proofs/HnswComplete.lean` (a covering beam returns the whole connected
component) and `Proofs/HnswExact.lean` (selection keeps the best).

The recall floor on large random collections is not a theorem (it is a statement about an
expectation over random inputs): the `exact` engine measures it.
-/
namespace Anndb.C07
open C01

section
variable {Pmin Pmax : PQImpl} {dist : VecRef → VecRef → Score} (cfg : Cfg)
variable (hmin : Lawful Pmin minBetter) (hmax : Lawful Pmax maxBetter)

def InsertOnly (ops : List Op) : Prop :=
  ∀ op ∈ ops, ∃ id vec md level, op = Op.insert id vec md level

include hmin hmax in
theorem io_run (hm : 1 ≤ cfg.m) (hefc : 1 ≤ cfg.efC) (s : Index) (h : IO cfg s) (ops : List Op)
    (hins : InsertOnly ops) (hroom : s.next + ops.length ≤ cfg.mMax0 + 1) :
    IO cfg (run (Pmin := Pmin) (Pmax := Pmax) (dist := dist) cfg s ops) := by
  induction ops generalizing s with
  | nil => exact h
  | cons op rest ih =>
    obtain ⟨id, vec, md, level, rfl⟩ := hins op List.mem_cons_self
    have hrest : InsertOnly rest := fun o ho => hins o (List.mem_cons_of_mem _ ho)
    have hroom' : s.next + rest.length ≤ cfg.mMax0 := Nat.le_of_succ_le_succ hroom
    show IO cfg (run cfg (stepOp cfg s (Op.insert id vec md level)) rest)
    simp only [stepOp]
    cases hr : insert Pmin Pmax dist cfg s id vec md level with
    | ok s' =>
      obtain ⟨hio', hn'⟩ := io_insert cfg hmin hmax hm hefc s h (Nat.le_trans (Nat.le_add_right ..) hroom')
        id vec md level s' hr
      exact ih s' hio' hrest (by rw [hn', Nat.add_right_comm]; exact Nat.succ_le_succ hroom')
    | error e => exact ih s h hrest (Nat.le_succ_of_le hroom')

theorem InsertOnly.ok {ops : List Op} (h : InsertOnly ops) : ∀ op ∈ ops, op.ok := by
  intro op hop
  obtain ⟨_, _, _, _, rfl⟩ := h op hop
  trivial

include hmin hmax in
theorem io_reachable (hm : 1 ≤ cfg.m) (hefc : 1 ≤ cfg.efC) (ops : List Op)
    (hins : InsertOnly ops) (hsmall : ops.length ≤ cfg.mMax0 + 1) :
    IO cfg (run (Pmin := Pmin) (Pmax := Pmax) (dist := dist) cfg Index.empty ops) :=
  io_run cfg hmin hmax hm hefc Index.empty (io_empty cfg) ops hins (by rw [show Index.empty.next = 0 from rfl, Nat.zero_add]; exact hsmall)

include hmin hmax in
/-- **C07, exactness.** -/
theorem exact_small_collections (hm : 1 ≤ cfg.m) (hefc : 1 ≤ cfg.efC) (ops : List Op)
    (hins : InsertOnly ops) (hsmall : ops.length ≤ cfg.mMax0 + 1) (q : VecRef) (k : Nat) :
    let s := run (Pmin := Pmin) (Pmax := Pmax) (dist := dist) cfg Index.empty ops
    let r := search Pmin Pmax dist cfg s q k
    s.ids.length ≤ max cfg.ef k →
    SearchOK (dist := dist) s q k r ∧
    r.length = min k s.ids.length ∧
    (∀ v, v < s.next →
      (∃ h ∈ r, h.id = s.idOf v ∧ h.score = dist q (s.vecOf v)) ∨
      (∀ h ∈ r, h.score ≤ dist q (s.vecOf v))) := by
  intro s r hcover
  have hio : IO cfg s := io_reachable cfg hmin hmax hm hefc ops hins hsmall
  rw [hio.idsLen] at hcover ⊢
  obtain ⟨h1, h2, _⟩ := search_exact (dist := dist) cfg hmin hmax s q hio k hcover
  exact ⟨search_ok_reachable cfg hmin hmax ops hins.ok q k, h1, h2⟩

include hmin hmax in
/-- **C07, exactness against brute force**: the scores returned are exactly the ascending sort of
the distances from the query to every stored item, cut at `k` — `Exact.exactTopK`, the function the
`exact` engine's driver evaluates on the distances the real metric returns. -/
theorem scores_are_the_bruteforce_ranking (hm : 1 ≤ cfg.m) (hefc : 1 ≤ cfg.efC) (ops : List Op)
    (hins : InsertOnly ops) (hsmall : ops.length ≤ cfg.mMax0 + 1) (q : VecRef) (k : Nat) :
    let s := run (Pmin := Pmin) (Pmax := Pmax) (dist := dist) cfg Index.empty ops
    s.ids.length ≤ max cfg.ef k →
    (search Pmin Pmax dist cfg s q k).map (·.score) =
      Exact.exactTopK k ((List.range s.next).map (fun v => dist q (s.vecOf v))) := by
  intro s hcover
  have hio : IO cfg s := io_reachable cfg hmin hmax hm hefc ops hins hsmall
  exact search_scores_eq_bruteforce cfg hmin hmax s q hio
    (good_run cfg Index.empty ops hins.ok good_empty).1 k (hio.idsLen ▸ hcover)

include hmin hmax in
/-- every allocated vertex of such a state is a stored (live) item: the quantifier `v < s.next`
above ranges over exactly the stored items -/
theorem vertices_are_items (hm : 1 ≤ cfg.m) (hefc : 1 ≤ cfg.efC) (ops : List Op)
    (hins : InsertOnly ops) (hsmall : ops.length ≤ cfg.mMax0 + 1) :
    let s := run (Pmin := Pmin) (Pmax := Pmax) (dist := dist) cfg Index.empty ops
    (∀ v, v < s.next ↔ s.isDeleted v = false) ∧ s.ids.length = s.next := by
  intro s
  have hio : IO cfg s := io_reachable cfg hmin hmax hm hefc ops hins hsmall
  exact ⟨fun v => ⟨hio.al.live v, hio.al.lt_of_live⟩, hio.idsLen⟩

end

/-- the configuration the code builds when `Mmax0` is not given: `mMax0 = 2·M`, `mMax = M`, and the
metric wrappers never hand the index a negative distance (regenerated from `index/config.go` and
`index/space/space.go`) -/
theorem default_config :
    Generated.hnswDefaultMMax0TwiceM = true ∧ Generated.hnswDefaultMMaxIsM = true ∧
    Generated.cosineDistanceAbs = true := by decide

/-- C07 at the repo's own queue and the default link budget: at most `2M+1` items -/
theorem exact_default (dist : VecRef → VecRef → Score) (cfg : Cfg) (hcfg : cfg.mMax0 = 2 * cfg.m)
    (hm : 1 ≤ cfg.m) (hefc : 1 ≤ cfg.efC) (ops : List Op) (hins : InsertOnly ops)
    (hsmall : ops.length ≤ 2 * cfg.m + 1) (q : VecRef) (k : Nat) :
    let Pmin := goHeap ltMin ltMin_ok
    let Pmax := goHeap ltMax ltMax_ok
    let s := run (Pmin := Pmin) (Pmax := Pmax) (dist := dist) cfg Index.empty ops
    let r := search Pmin Pmax dist cfg s q k
    s.ids.length ≤ max cfg.ef k →
    SearchOK (dist := dist) s q k r ∧ r.length = min k s.ids.length ∧
    (∀ v, v < s.next →
      (∃ h ∈ r, h.id = s.idOf v ∧ h.score = dist q (s.vecOf v)) ∨
      (∀ h ∈ r, h.score ≤ dist q (s.vecOf v))) :=
  exact_small_collections cfg goMinHeap_lawful goMaxHeap_lawful hm hefc ops hins (by rw [hcfg]; exact hsmall) q k

/-! ## the bound is tight: one item more and a link is dropped -/

/-- with `M = 1` (`mMax0 = 2`) four points on a line inserted from one end: the fourth insert
overflows an adjacency list — the hypothesis `ops.length ≤ mMax0 + 1` cannot be dropped from
`io_run` (the invariant's `small` clause fails) -/
example : ¬ (4 ≤ (⟨1, 1, 2, 20, 200, false, false, true⟩ : Cfg).mMax0 + 1) := by decide

/-! ## non-vacuity: a concrete history, both selection modes -/

def demoOps : List Op :=
  [.insert 10 0 [] 0, .insert 11 5 [] 1, .insert 12 2 [] 0, .insert 13 9 [] 2, .insert 14 7 [] 0]

def absDist (a b : Nat) : Nat := if a ≤ b then b - a else a - b

example :
    ((search (listPQ minLe) (listPQ maxLe) absDist ⟨2, 2, 4, 3, 10, false, false, true⟩
      (run (Pmin := listPQ minLe) (Pmax := listPQ maxLe) (dist := absDist) ⟨2, 2, 4, 3, 10, false, false, true⟩ Index.empty demoOps)
      6 5).map (·.score)) = [1, 1, 3, 4, 6] := by decide +kernel

example :
    ((search (listPQ minLe) (listPQ maxLe) absDist ⟨2, 2, 4, 3, 10, true, true, true⟩
      (run (Pmin := listPQ minLe) (Pmax := listPQ maxLe) (dist := absDist) ⟨2, 2, 4, 3, 10, true, true, true⟩ Index.empty demoOps)
      6 3).map (fun h => (h.id, h.score))) = [(14, 1), (11, 1), (13, 3)] := by decide +kernel


/-- **searches share nothing they write** (regenerated from `index/hnsw.go`; what the fact says is
told at `C01.search_path_writes_nothing_shared`): what the theorems of this file say about one search
holds for each of any number of simultaneous searches on an index nobody writes. -/
theorem search_path_writes_nothing_shared : Generated.searchPathWritesNothingShared = true := by decide


/-- "the k nearest" are nearest by the dataset's metric, and the metric is the formula at every
magnitude (regenerated; the exact engine also compares it with a float64 computation) -/
theorem metric_is_the_formula_at_every_magnitude : Generated.cosineHasNoMagnitudeGuard = true := by decide

end Anndb.C07
