import Anndb.Model.Placement
import Anndb.Generated
/-!
# C16 — Every partition is placed on min(R, N) distinct member nodes, independently

`shuffle` is an oracle: the theorems hold for *every* family of permutations of the member
list, hence for every seed of the shuffle, every N, R and partition count.
-/
namespace Anndb.C16
open Anndb.Placement

variable (members : List Nat) (r : Nat) (perms : List (List Nat))

/-- one entry per partition -/
theorem place_count : (place members.length r perms).length = perms.length := by
  simp [place]

/-- **exactly min(R, N) nodes** per partition -/
theorem place_len (hp : ∀ p ∈ perms, p.Perm members) :
    ∀ got ∈ place members.length r perms, got.length = min r members.length :=
  -- `place` is a `map` over the shuffles
  List.forall_mem_map.mpr fun p hp' => by
    rw [List.length_take, (hp p hp').length_eq]
    exact Nat.min_eq_left (Nat.min_le_right _ _)

/-- **distinct** nodes (members are distinct) -/
theorem place_nodup (hm : members.Nodup) (hp : ∀ p ∈ perms, p.Perm members) :
    ∀ got ∈ place members.length r perms, got.Nodup :=
  List.forall_mem_map.mpr fun p hp' => ((hp p hp').nodup_iff.mpr hm).sublist (List.take_sublist _ _)

/-- **all of them current members** -/
theorem place_members (hp : ∀ p ∈ perms, p.Perm members) :
    ∀ got ∈ place members.length r perms, ∀ x ∈ got, x ∈ members :=
  List.forall_mem_map.mpr fun p hp' _ hx => (hp p hp').subset (List.mem_of_mem_take hx)

/-- the decidable check the driver runs on observed placements accepts exactly such outputs -/
theorem place_valid (hm : members.Nodup) (hp : ∀ p ∈ perms, p.Perm members) :
    valid members r (place members.length r perms) = true := by
  unfold valid
  rw [List.all_eq_true]
  intro got hg
  unfold validOne
  simp only [Bool.and_eq_true, beq_iff_eq, decide_eq_true_eq, List.all_eq_true]
  exact ⟨⟨place_len members r perms hp got hg, place_nodup members r perms hm hp got hg⟩,
    fun x hx => place_members members r perms hp got hg x hx⟩

/-- **independence**: the nodes of partition `i` are a function of partition `i`'s shuffle
alone — changing the other partitions' shuffles does not move it -/
theorem place_independent (perms' : List (List Nat)) (i : Nat)
    (h : perms[i]? = perms'[i]?) :
    (place members.length r perms)[i]? = (place members.length r perms')[i]? := by
  simp only [place, List.getElem?_map, h]

/-- in particular any two partitions can be placed differently: with N > R ≥ 1 there are
shuffles under which partitions 0 and 1 get different node sets (so partitions spread) -/
theorem place_can_spread (a b : Nat) (hab : a ≠ b) :
    (place 2 1 [[a, b], [b, a]])[0]? ≠ (place 2 1 [[a, b], [b, a]])[1]? := by
  simp [place, hab]

/-- **the aliasing variant fails**: with a shared backing array every partition reads the
last shuffle's prefix — all partitions land on the same nodes whatever the shuffles were -/
theorem alias_all_equal (g1 g2 : List Nat)
    (h1 : g1 ∈ placeAlias members.length r perms) (h2 : g2 ∈ placeAlias members.length r perms) : g1 = g2 := by
  simp only [placeAlias, List.mem_map] at h1 h2
  obtain ⟨_, _, rfl⟩ := h1
  obtain ⟨_, _, rfl⟩ := h2
  rfl

/-- concrete witness (D11): 3 partitions on 3 nodes with R = 2 and three different shuffles -/
theorem alias_counterexample :
    placeAlias 3 2 [[1, 2, 3], [2, 3, 1], [3, 1, 2]] = [[3, 1], [3, 1], [3, 1]] ∧
    place 3 2 [[1, 2, 3], [2, 3, 1], [3, 1, 2]] = [[1, 2], [2, 3], [3, 1]] := by decide

/-! ### what the code does (regenerated facts) -/

/-- `getPartitionsNodeIds` copies the prefix for each partition (so `place`, not `placeAlias`, is its model) -/
theorem code_copies_prefix : Generated.placementCopiesPrefix = true := by decide

/-- `Conn.NodeIds` hands out a fresh slice, so the in-place shuffle cannot disturb the membership table -/
theorem code_nodeids_fresh : Generated.connNodeIdsFresh = true := by decide

/-- the placement that is proposed is the one `Create` computes from the members of that moment,
whatever the request message carries in its id and partitions fields (regenerated) -/
theorem create_computes_id_and_placement : Generated.createComputesIdAndPlacement = true := by decide

/-- non-vacuity -/
example : valid [5, 7, 9] 2 (place 3 2 [[7, 5, 9], [9, 7, 5]]) = true := by decide

end Anndb.C16
