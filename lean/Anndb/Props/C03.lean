import Anndb.Model.Recovery
import Anndb.Model.RaftLoop
import Anndb.Proofs.Quorum
import Anndb.Proofs.TornTail
import Anndb.Props.C05
import Anndb.Props.C06
import Anndb.Generated
/-!
# C03 — acknowledged writes survive a crash at any instant and restart

`Inv` is an invariant of every reachable state of the micro-step model with the order the code
has (`wal.Save` before `processFn`), crashes allowed between any two micro-steps; the results about
one replica read it off. The replicated clause rests on quorum intersection (`Proofs/Quorum.lean`),
the crash inside a write on the value-log model (`Model/TornTail.lean`). -/
namespace Anndb.Recovery

structure Inv (s : St) : Prop where
  sub : (s.snap ++ s.log ++ s.unstable).Sublist s.submitted
  app : s.up = true → s.applied <+: s.snap ++ s.log
  ack : ∀ e ∈ s.acked, e ∈ s.snap ++ s.log
  down : s.up = false → s.unstable = [] ∧ s.applied = []

theorem inv_init : Inv init :=
  ⟨by simp [init], by intro _; simp [init], by simp [init], by simp [init]⟩

theorem getElem?_prefix_append {α : Type} {l p : List α} {e : α} (hp : p <+: l) (he : l[p.length]? = some e) :
    p ++ [e] <+: l := by
  have := List.take_prefix (p.length + 1) l
  rwa [List.take_add_one, ← List.prefix_iff_eq_take.mp hp, he] at this

theorem inv_step {s t : St} (h : Inv s) (st : Step true s t) : Inv t := by
  have up {P : Prop} (hup : s.up = true) : s.up = false → P :=
    fun hd => nomatch hup.symm.trans hd
  cases st with
  | propose e hup hfresh =>
    refine ⟨?_, h.app, h.ack, up hup⟩
    show (s.snap ++ s.log ++ (s.unstable ++ [e])).Sublist (s.submitted ++ [e])
    rw [← List.append_assoc]
    exact h.sub.append (.refl _)
  | save hup =>
    have hd : s.snap ++ (s.log ++ s.unstable) = s.snap ++ s.log ++ s.unstable := (List.append_assoc ..).symm
    refine ⟨?_, fun hu => ?_, fun e he => ?_, up hup⟩
    · show (s.snap ++ (s.log ++ s.unstable) ++ []).Sublist s.submitted
      rw [List.append_nil, hd]
      exact h.sub
    · show s.applied <+: s.snap ++ (s.log ++ s.unstable)
      rw [hd]
      exact (h.app hu).trans (List.prefix_append _ _)
    · show e ∈ s.snap ++ (s.log ++ s.unstable)
      rw [hd]
      exact List.mem_append_left _ (h.ack e he)
  | applyOne e hup hget =>
    have hget : (s.snap ++ s.log)[s.applied.length]? = some e := hget
    refine ⟨h.sub, fun _ => getElem?_prefix_append (h.app hup) hget, fun x hx => ?_, up hup⟩
    rcases List.mem_append.mp hx with hx | hx
    · exact h.ack x hx
    · rw [List.mem_singleton.mp hx]
      exact List.mem_of_getElem? hget
  | compact hup hle =>
    have hd : s.snap ++ s.log = s.durable.take s.applied.length ++ s.durable.drop s.applied.length :=
      (List.take_append_drop _ _).symm
    exact ⟨hd ▸ h.sub, hd ▸ h.app, hd ▸ h.ack, up hup⟩
  | crash =>
    exact ⟨(List.append_nil _).symm ▸ (List.sublist_append_left _ _).trans h.sub, nofun, h.ack, fun _ => ⟨rfl, rfl⟩⟩
  | restart hdown => exact ⟨h.sub, fun _ => List.prefix_append _ _, h.ack, nofun⟩

theorem inv_reach {s : St} (r : Reach true s) : Inv s := by
  induction r with
  | init => exact inv_init
  | step _ st ih => exact inv_step ih st

/-- **C03 (durability).** In every reachable state — in particular right after a crash at any
instant — every write that was ever acknowledged is part of what restart + replay rebuilds. -/
theorem acked_durable {s : St} (r : Reach true s) : ∀ e ∈ s.acked, e ∈ s.durable :=
  (inv_reach r).ack

/-- **C03 (nothing invented, order kept).** What restart + replay rebuilds is a sub-sequence of
what was submitted: acknowledged writes, optionally extended by writes that were in flight. -/
theorem nothing_invented {s : St} (r : Reach true s) : s.durable.Sublist s.submitted := by
  have := (inv_reach r).sub
  exact List.Sublist.trans (List.sublist_append_left _ _) this

theorem applied_is_durable_prefix {s : St} (r : Reach true s) (hu : s.up = true) : s.applied <+: s.durable :=
  (inv_reach r).app hu

theorem applyAll_applied (s : St) (n : Nat) (hp : s.applied <+: s.durable) :
    (applyAll true n s).applied = s.durable.take (s.applied.length + n) := by
  fun_induction applyAll true n s with
  | case1 s => exact List.prefix_iff_eq_take.mp hp
  | case2 n s e he ih =>
    rw [ih (getElem?_prefix_append hp he), List.length_append, List.length_singleton, Nat.add_assoc,
      Nat.add_comm 1]
    rfl
  | case3 n s he =>
    -- the index has reached the end of the durable list: both sides are all of it
    have hle : s.durable.length ≤ s.applied.length := List.getElem?_eq_none_iff.mp he
    refine (List.prefix_iff_eq_take.mp hp).trans ?_
    rw [List.take_of_length_le hle, List.take_of_length_le (Nat.le_add_right_of_le hle)]

/-- **C03 (replay).** After `Start()` has installed the stored snapshot, replaying the stored log
rebuilds exactly the durable list. -/
theorem replay_reaches (s : St) :
    (applyAll true s.log.length (restart s)).applied = s.durable := by
  rw [applyAll_applied _ _ (List.prefix_append _ _)]
  exact List.take_of_length_le (Nat.le_of_eq List.length_append)

/-- the order in the code: `wal.Save` precedes `processFn` in the ready loop, and `Start`
installs the stored snapshot before the loop runs (regenerated from the sources) -/
theorem order_in_code :
    Generated.raftSaveBeforeApply = true ∧ Generated.raftStartInstallsSnapshot = true ∧
    Generated.raftSnapshotAtLastApplied = true := by decide

/-- for a replicated group the quorum argument (trusted to etcd/raft) needs every replica to store
an append before acknowledging it: the whole statement order of the loop is the one proved in C05 -/
theorem follower_acks_after_save :
    Generated.readyLoopOrder.map RaftLoop.parseStmt = RaftLoop.canonical := RaftLoop.order_in_code

/-- **C03 (any minority of replicas crashes and restarts).** An acknowledged entry is in the log
stores of a majority (the leader's own: `acked_durable`; a follower's append acknowledgement leaves
only after its `wal.Save`: `follower_acks_after_save`), and restarts change no log store: every
majority of voters that elects a later leader contains a replica whose store holds the entry. That
the elected leader then has it is Raft's election restriction (etcd/raft, trusted). -/
theorem acked_entry_meets_every_election (stores : List (List Nat)) (e : Nat)
    (hack : stores.length < 2 * (Quorum.holders stores e).length)
    (Q : List Nat) (hQ : Quorum.Majority stores.length Q) :
    ∃ r, r ∈ Q ∧ e ∈ stores.getD r [] :=
  Quorum.acked_entry_meets_every_election stores e hack Q hQ

/-- the other order (`processFn` before `wal.Save`): entry 7 is applied and acknowledged while it is
still unstable; the crash takes it -/
theorem apply_first_loses : ∃ s, Reach false s ∧ ∃ e ∈ s.acked, e ∉ s.durable :=
  ⟨_, Reach.init |>.step (.propose _ 7 rfl nofun) |>.step (.applyOne _ 7 rfl rfl) |>.step (.crash _),
    7, by decide, by decide⟩

theorem admissible_acked (a : List Entry) (i : Option Entry) : admissible a i a = true := by
  simp [admissible]

theorem admissible_inflight (a : List Entry) (e : Entry) : admissible a (some e) (a ++ [e]) = true := by
  simp [admissible]

/-! ## non-vacuity -/

def demo : St :=
  let s := propose init 1
  let s := applyAll true 1 (save s)
  let s := propose s 2
  let s := applyAll true 1 (save s)
  let s := compact s
  let s := save (propose s 3)      -- saved, not yet applied: in flight
  let s := crash s
  applyAll true 5 (restart s)

example : demo.acked = [1, 2, 3] ∧ demo.applied = [1, 2, 3] ∧ demo.snap = [1, 2] ∧ demo.log = [3] := by decide

/-- **C03 (a replica that crashed catches up without a hole).** The leader builds the appends for a
follower that was down from size-limited reads of its stored log; each is a non-empty run starting at the
index asked for (C06's refinement of the read), so the follower's log — and what it applies — has every
acknowledged entry at its index. -/
theorem catch_up_reads_have_no_hole (w : Wal.Wal) (h : Wal.WF w) (lo hi maxSize : Nat)
    (hlo : (Wal.abs w).firstIndex ≤ lo) (hlt : lo < hi) (hhi : hi ≤ (Wal.abs w).lastIndex + 1) :
    ∃ es w', w.entries lo hi maxSize = .ok (es, w') ∧
      es <+: (((Wal.abs w).ents.drop (lo - (Wal.abs w).offset)).take (hi - lo)) ∧ es ≠ [] :=
  C06.limited_read_is_a_run_from_lo w h lo hi maxSize hlo hlt hhi

/-! ## a crash in the middle of an append to the store's value log (D35)

The file holds the records written so far — every acknowledged write among them, an acknowledgement
follows the completed write — and then the first `k` bytes of the record whose write the kill
interrupted, for any `k` from nothing to all of it. -/

open Anndb.TornTail

/-- **C03 (crash at any instant, also inside a write).** Opened the way `server.go` opens its store,
the file left by a kill after any number of bytes of the append in progress yields every record
written before, plus the interrupted one exactly when all of it had reached the file. -/
theorem reopen_after_crash_at_any_byte (written : List Rec) (next : Rec) (k : Nat) (hk : k ≤ (encode next).length) :
    reopen true (encodeAll written ++ (encode next).take k)
      = some (written ++ if k = (encode next).length then [next] else []) := by
  simp only [reopen, Bool.or_true, if_true, parse_encodeAll_append, parse_take_encode next k hk]

/-- without the truncation a kill strictly inside a record leaves a store that refuses to open: the
node does not come back, with all its acknowledged writes on disk -/
theorem torn_record_blocks_restart_without_truncate (written : List Rec) (next : Rec) (k : Nat)
    (h0 : 0 < k) (hk : k < (encode next).length) :
    reopen false (encodeAll written ++ (encode next).take k) = none := by
  simp [reopen, parse_encodeAll_append, parse_take_encode next k (Nat.le_of_lt hk), Nat.ne_of_gt h0, Nat.ne_of_lt hk]

/-- the option in the code (regenerated from `server.go`) -/
theorem store_cuts_torn_tail_in_code : Generated.serverStoreCutsTornTail = true := by decide

/-- the two together: the server's store, as the code opens it, comes back after a kill at any byte -/
theorem server_store_reopens (written : List Rec) (next : Rec) (k : Nat) (hk : k ≤ (encode next).length) :
    ∃ rs, reopen Generated.serverStoreCutsTornTail (encodeAll written ++ (encode next).take k) = some rs ∧
      written <+: rs := by
  rw [store_cuts_torn_tail_in_code, reopen_after_crash_at_any_byte written next k hk]
  exact ⟨_, rfl, List.prefix_append _ _⟩

example : reopen true (encodeAll [[7, 8], [9]] ++ (encode [1, 2, 3]).take 2) = some [[7, 8], [9]] :=
  reopen_after_crash_at_any_byte [[7, 8], [9]] [1, 2, 3] 2 (by decide)

example : reopen false (encodeAll [[7, 8], [9]] ++ (encode [1, 2, 3]).take 2) = none :=
  torn_record_blocks_restart_without_truncate [[7, 8], [9]] [1, 2, 3] 2 (by decide) (by decide)

end Anndb.Recovery
