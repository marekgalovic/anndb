import Anndb.Proofs.WalRun
/-!
# The Badger-backed store refines etcd's `MemoryStorage` (C06): representation invariant,
abstraction, and the read side

`WF w`: the group's entry keys are a non-empty run of consecutive indices whose first element is
the dummy (the snapshot's entry), and every cached value (`last`, `first`, snapshot) is what a scan
of the disk would return. `abs w` is the `MemoryStorage` state the store stands for. Under `WF`
every read (`FirstIndex`, `LastIndex`, `Term`, `Snapshot`, `InitialState`'s hard state) returns what
`MemoryStorage` returns on `abs w`, and reopening the database (`NewBadgerWAL` on the same disk:
all caches dropped) changes neither `abs` nor `WF`.
-/
namespace Anndb.Wal

structure WF (w : Wal) : Prop where
  ne : w.disk.ents ≠ []
  contig : Contig w.disk.ents
  cLast : ∀ l, w.cache.last = some l → ∃ e, w.disk.ents.getLast? = some e ∧ e.index = l
  /-- the cached first index is consulted only while no snapshot is cached -/
  cFirst : w.cachedSnap = none → ∀ f, w.cache.first = some f → ∃ e, w.disk.ents.head? = some e ∧ f = e.index + 1
  cSnap : ∀ s, w.cachedSnap = some s → w.disk.ss = some s
  /-- the first key is the stored snapshot's entry (index 0 and no snapshot for a fresh store) -/
  ssHead : ∃ e, w.disk.ents.head? = some e ∧ e.index = (w.disk.ss.getD emptySnap).index

/-- the first key stands for `MemoryStorage`'s dummy entry, which carries no payload -/
def absEnts : List Entry → List Entry
  | [] => []
  | e :: t => ⟨e.index, e.term, 0, 0⟩ :: t

def abs (w : Wal) : Mem := ⟨w.hardState, w.disk.ss.getD emptySnap, absEnts w.disk.ents⟩

theorem abs_ents (w : Wal) : (abs w).ents = absEnts w.disk.ents := rfl

theorem abs_congr {w w' : Wal} (h : w'.disk = w.disk) : abs w' = abs w := by
  simp [abs, Wal.hardState, h]

theorem absEnts_length (l : List Entry) : (absEnts l).length = l.length := by cases l <;> rfl

theorem absEnts_idem_head (e : Entry) (t : List Entry) :
    absEnts (⟨e.index, e.term, 0, 0⟩ :: t) = ⟨e.index, e.term, 0, 0⟩ :: t := rfl

theorem absEnts_term (l : List Entry) (k : Nat) : ((absEnts l).getD k default).term = (l.getD k default).term := by
  cases l <;> cases k <;> rfl

theorem absEnts_getD (l : List Entry) (k : Nat) (hk : 1 ≤ k) : (absEnts l).getD k default = l.getD k default := by
  obtain ⟨j, rfl⟩ := Nat.exists_eq_add_of_le' hk
  cases l <;> rfl

theorem absEnts_drop (l : List Entry) (k : Nat) (hk : 1 ≤ k) : (absEnts l).drop k = l.drop k := by
  obtain ⟨j, rfl⟩ := Nat.exists_eq_add_of_le' hk
  cases l <;> rfl

theorem absEnts_take_append (l es : List Entry) (k : Nat) (hk : 1 ≤ k) (hl : l ≠ []) :
    absEnts (l.take k ++ es) = (absEnts l).take k ++ es := by
  obtain ⟨j, rfl⟩ := Nat.exists_eq_add_of_le' hk
  obtain ⟨x, t, rfl⟩ := List.exists_cons_of_ne_nil hl
  rfl

/-! ## `WF` in numbers -/

theorem wf_iff (w : Wal) :
    WF w ↔ w.disk.ents ≠ [] ∧ IsRun (abs w).snap.index w.disk.ents ∧
      (∀ l, w.cache.last = some l → l + 1 = (abs w).snap.index + w.disk.ents.length) ∧
      (w.cachedSnap = none → ∀ f, w.cache.first = some f → f = (abs w).snap.index + 1) ∧
      (∀ s, w.cachedSnap = some s → w.disk.ss = some s) := by
  constructor
  · rintro ⟨ne, contig, cLast, cFirst, cSnap, e, he, hei⟩
    have run : IsRun (abs w).snap.index w.disk.ents := hei ▸ contig.isRun he
    refine ⟨ne, run, fun l hl => ?_, fun hc f hf => ?_, cSnap⟩
    · obtain ⟨z, hz, rfl⟩ := cLast l hl
      exact run.getLast? hz
    · obtain ⟨e', he', rfl⟩ := cFirst hc f hf
      rw [he] at he'; cases he'; rw [hei]; rfl
  · rintro ⟨ne, run, last, first, snap⟩
    obtain ⟨x, t, hl⟩ := List.exists_cons_of_ne_nil ne
    have hx : x.index = (abs w).snap.index := (isRun_cons.mp (hl ▸ run)).1
    refine ⟨ne, run.contig, fun l hl' => ?_, fun hc f hf => ⟨x, by rw [hl]; rfl, by rw [first hc f hf, hx]⟩, snap,
      x, by rw [hl]; rfl, hx⟩
    obtain ⟨z, hz⟩ : ∃ z, w.disk.ents.getLast? = some z := ⟨_, hl ▸ List.getLast?_cons⟩
    exact ⟨z, hz, Nat.add_right_cancel ((run.getLast? hz).trans (last l hl').symm)⟩

theorem WF.isRun {w : Wal} (h : WF w) : IsRun (abs w).snap.index w.disk.ents := ((wf_iff w).mp h).2.1

theorem Snap.not_isEmpty {s : Snap} (h : 0 < s.index) : s.isEmpty = false := beq_false_of_ne (Nat.ne_of_gt h)

theorem cachedSnap_of_snap {w : Wal} {s : Snap} (hc : w.cache.snap = some s) (hs : s.isEmpty = false) :
    w.cachedSnap = some s := by
  simp [Wal.cachedSnap, hc, hs]

theorem WF.of_snap {d : Disk} {c : Cache} {s : Snap} (hs : s.isEmpty = false) (hc : c.snap = some s)
    (hd : d.ss = some s) (ne : d.ents ≠ []) (run : IsRun s.index d.ents)
    (last : ∀ l, c.last = some l → l + 1 = s.index + d.ents.length) : WF ⟨d, c⟩ := by
  have hcs := cachedSnap_of_snap (w := ⟨d, c⟩) hc hs
  refine (wf_iff _).mpr ⟨ne, ?_, ?_, fun h => ?_, fun s' h' => ?_⟩
  · simpa only [abs, hd, Option.getD_some] using run
  · simpa only [abs, hd, Option.getD_some] using last
  · cases hcs.symm.trans h
  · cases hcs.symm.trans h'; exact hd

theorem WF.offset {w : Wal} (h : WF w) : (abs w).offset = (abs w).snap.index := by
  obtain ⟨x, t, hl⟩ := List.exists_cons_of_ne_nil h.ne
  have := (isRun_cons.mp (hl ▸ h.isRun)).1
  simpa [abs, Mem.offset, absEnts, hl] using this

theorem WF.firstIndex {w : Wal} (h : WF w) : (abs w).firstIndex = (abs w).snap.index + 1 := by
  rw [Mem.firstIndex, h.offset]

theorem WF.lastIndex {w : Wal} (h : WF w) :
    (abs w).lastIndex + 1 = (abs w).snap.index + w.disk.ents.length := by
  rw [Mem.lastIndex, h.offset, abs_ents, absEnts_length]
  exact Nat.sub_add_cancel (Nat.add_pos_right _ (List.length_pos_iff.mpr h.ne))

/-! ## reads -/

theorem firstIndex_refines (w : Wal) (h : WF w) :
    ∃ w', w.firstIndex = .ok ((abs w).firstIndex, w') ∧ w'.disk = w.disk ∧ WF w' := by
  obtain ⟨ne, run, last, first, snap⟩ := (wf_iff w).mp h
  rw [h.firstIndex]
  unfold Wal.firstIndex
  cases hcs : w.cachedSnap with
  | some s => exact ⟨w, by simp [abs, snap s hcs], rfl, h⟩
  | none =>
    cases hcf : w.cache.first with
    | some f => exact ⟨w, by rw [first hcs f hcf], rfl, h⟩
    | none =>
      obtain ⟨x, t, hl⟩ := List.exists_cons_of_ne_nil ne
      have hx : x.index = (abs w).snap.index := (isRun_cons.mp (hl ▸ run)).1
      refine ⟨{ w with cache := { w.cache with first := some (x.index + 1) } }, ?_, rfl,
        (wf_iff _).mpr ⟨ne, run, last, fun _ f hf => ?_, snap⟩⟩
      · simp [Wal.seekFwd, hl, hx]
      · cases hf; rw [hx]; rfl

theorem lastIndex_refines (w : Wal) (h : WF w) : w.lastIndex = .ok (abs w).lastIndex := by
  obtain ⟨ne, run, last, -, -⟩ := (wf_iff w).mp h
  have hlast := h.lastIndex
  unfold Wal.lastIndex
  cases hcl : w.cache.last with
  | some l => exact congrArg Except.ok (Nat.add_right_cancel ((last l hcl).trans hlast.symm))
  | none =>
    cases hz : w.disk.ents.getLast? with
    | none => exact absurd (List.getLast?_eq_none_iff.mp hz) ne
    | some z =>
      simp only [Wal.seekLast, hz]
      exact congrArg Except.ok (Nat.add_right_cancel ((run.getLast? hz).trans hlast.symm))

theorem snapshot_refines (w : Wal) (h : WF w) : w.snapshot = (abs w).snap := by
  unfold Wal.snapshot
  cases hcs : w.cachedSnap with
  | some s => simp [abs, h.cSnap s hcs]
  | none => rfl

theorem hardState_refines (w : Wal) : w.hardState = (abs w).hs := rfl

theorem term_refines (w : Wal) (h : WF w) (i : Nat) :
    (w.term i).map (·.1) = (abs w).term i := by
  obtain ⟨w', hf, hdisk, -⟩ := firstIndex_refines w h
  unfold Wal.term Mem.term
  simp only [hf, bind, Except.bind, h.firstIndex, h.offset, Wal.seekFwd, hdisk, h.isRun.find?_ge, abs_ents,
    absEnts_term, absEnts_length, Nat.add_sub_cancel]
  -- below the snapshot index both answer compacted; an absent position `i - snap.index` gives unavailable on both
  -- sides; otherwise that entry's index is `i`, so the store's `idx < e.index` test is false
  by_cases hlt : i < (abs w).snap.index
  · simp [hlt, Except.map]
  · cases hk : w.disk.ents[i - (abs w).snap.index]? with
    | none => simp [hlt, Except.map, List.getElem?_eq_none_iff.mp hk]
    | some e =>
      have hei : e.index = i := (h.isRun.getElem? hk).trans (Nat.add_sub_cancel' (Nat.le_of_not_lt hlt))
      simp [hlt, Except.map, List.getD_eq_getElem?_getD, hk, hei,
        Nat.not_le.mpr (List.getElem?_eq_some_iff.mp hk).1]

theorem reopen_refines (w : Wal) (h : WF w) :
    WF (Wal.open_ w.disk) ∧ abs (Wal.open_ w.disk) = abs w := by
  have hwf0 : WF ⟨w.disk, emptyCache⟩ :=
    ⟨h.ne, h.contig, fun _ hl => (nomatch hl), fun _ _ hf => (nomatch hf), fun _ hs => (nomatch hs), h.ssHead⟩
  obtain ⟨w', hf, hdisk, hwf'⟩ := firstIndex_refines ⟨w.disk, emptyCache⟩ hwf0
  unfold Wal.open_
  simp only [hf]
  exact ⟨hwf', abs_congr hdisk⟩

theorem wf_fresh : WF Wal.fresh ∧ abs Wal.fresh = Mem.init := by
  have hd : Wal.fresh = ⟨⟨[⟨0, 0, 0, 0⟩], none, none⟩, emptyCache⟩ := by
    simp [Wal.fresh, Wal.open_, Wal.firstIndex, Wal.cachedSnap, emptyCache, Wal.seekFwd, Wal.reset, Disk.flush,
      Disk.apply, insertSorted]
  rw [hd]
  exact ⟨⟨List.cons_ne_nil _ _, trivial, fun _ hl => (nomatch hl), fun _ _ hf => (nomatch hf), fun _ hs => (nomatch hs),
    _, rfl, rfl⟩, rfl⟩

end Anndb.Wal
