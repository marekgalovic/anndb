import Anndb.Proofs.HeapLemmas
import Anndb.Proofs.PQLemmas
/-!
# The repo's priority queue (over `container/heap`) is `Lawful` (C19, second half)
-/
namespace Anndb
namespace Heap

variable {lt : Item → Item → Bool}

theorem get_push_lt (a : Array Item) (x : Item) (k : Nat) (hk : k < a.size) : get (a.push x) k = get a k := by
  simp [get, Array.getElem?_push, hk, Nat.ne_of_lt hk]

theorem get_pop_lt (a : Array Item) (k : Nat) (hk : k < a.size - 1) : get a.pop k = get a k := by
  unfold get
  rw [Array.getElem?_pop, if_pos hk]

theorem push_heap (hlt : LtOK lt) (a : Array Item) (x : Item) (h : IsHeap lt a a.size) :
    IsHeap lt (push lt a x) (push lt a x).size := by
  unfold push
  rw [size_up, Array.size_push]
  exact up_isHeap hlt _ _ _ (h.congr fun k _ hk => get_push_lt a x k hk)

theorem push_perm (a : Array Item) (x : Item) : (push lt a x).toList.Perm (x :: a.toList) :=
  (up_perm _ _ _).toList.trans (Array.toList_push ▸ List.perm_append_singleton x a.toList)

theorem pop_none (a : Array Item) (h : a.size = 0) : pop lt a = none := by
  unfold pop; simp [h]

theorem pop_result (a : Array Item) (h : 0 < a.size) :
    pop lt a = some (get a 0,
      (down lt (a.swap 0 (a.size - 1) (by omega) (by omega)) 0 (a.size - 1) (by simp)).pop) := by
  unfold pop
  simp only [h, dite_true]
  congr 2
  rw [getElem_eq_get, down_frame _ _ _ _ _ (Nat.le_refl _), get_swap_right]

theorem pop_heap (hlt : LtOK lt) (a : Array Item) (h : 0 < a.size) (hh : IsHeap lt a a.size) :
    let r := (down lt (a.swap 0 (a.size - 1) (by omega) (by omega)) 0 (a.size - 1) (by simp)).pop
    IsHeap lt r r.size := by
  -- the swap leaves cells 1 … n-2 alone, `down` from 0 restores the order on the first n-1 cells,
  -- and `.pop` drops a cell outside them
  intro r
  have hsz : r.size = a.size - 1 := by simp [r, size_down]
  rw [hsz]
  refine HeapAbove.congr (down_heapAbove hlt _ 0 (a.size - 1) _ ?_) fun k _ hk =>
    get_pop_lt _ k (by rw [size_down, Array.size_swap]; exact hk)
  refine HeapAbove.congr (fun k hk0 hkn _ => hh k hk0 (Nat.lt_of_lt_of_le hkn (Nat.sub_le _ _)) (Nat.zero_le _))
    fun k h1 hk => get_swap_ne a 0 _ _ _ k (Nat.ne_of_gt h1) (Nat.ne_of_lt hk)

theorem toList_split_last (D : Array Item) (h : 0 < D.size) :
    D.toList = D.pop.toList ++ [get D (D.size - 1)] := by
  have e : get D (D.size - 1) = D.back! := by rw [Array.back!_eq_back?, Array.back?_eq_getElem?]; rfl
  rw [e, ← Array.toList_push, ← Array.eq_push_pop_back!_of_size_ne_zero (Nat.ne_of_gt h)]

theorem pop_perm (a : Array Item) (h : 0 < a.size) :
    a.toList.Perm (get a 0 ::
      (down lt (a.swap 0 (a.size - 1) (by omega) (by omega)) 0 (a.size - 1) (by simp)).pop.toList) := by
  generalize hD : down lt (a.swap 0 (a.size - 1) (by omega) (by omega)) 0 (a.size - 1) (by simp) = D
  have hp : D.Perm a := hD ▸ (down_perm _ _ _ _).trans (Array.swap_perm _ _)
  have hl : get D (a.size - 1) = get a 0 := by
    rw [← hD, down_frame _ _ _ _ _ (Nat.le_refl _), get_swap_right]
  have hs := toList_split_last D (hp.size_eq ▸ h)
  rw [hp.size_eq, hl] at hs
  exact hp.toList.symm.trans (hs ▸ List.perm_append_singleton _ _)

theorem pop_spec (hlt : LtOK lt) (a : Array Item) (hh : IsHeap lt a a.size) (x : Item) (a' : Array Item)
    (e : pop lt a = some (x, a')) :
    a.toList.Perm (x :: a'.toList) ∧ (∀ y ∈ a.toList, lt y x = false) ∧ IsHeap lt a' a'.size := by
  have h : 0 < a.size := Nat.pos_of_ne_zero fun h0 => by simp [pop_none a h0] at e
  rw [pop_result a h, Option.some.injEq, Prod.mk.injEq] at e
  obtain ⟨rfl, rfl⟩ := e
  refine ⟨pop_perm a h, fun y hy => ?_, pop_heap hlt a h hh⟩
  obtain ⟨k, hk, rfl⟩ := Array.mem_iff_getElem.mp (Array.mem_toList_iff.mp hy)
  exact getElem_eq_get a k hk ▸ root_best hlt a a.size hh k hk

theorem initLoop_size (a : Array Item) (i : Nat) : (initLoop lt a i).size = a.size := by
  fun_induction initLoop lt a i with
  | case1 => rfl
  | case2 a k ih => rw [ih, size_down]

theorem initLoop_perm (a : Array Item) (i : Nat) : (initLoop lt a i).Perm a := by
  fun_induction initLoop lt a i with
  | case1 => exact .refl _
  | case2 a k ih => exact ih.trans (down_perm _ _ _ _)

theorem initLoop_heap (hlt : LtOK lt) (a : Array Item) (i : Nat) (h : HeapAbove lt a a.size i) :
    IsHeap lt (initLoop lt a i) a.size := by
  fun_induction initLoop lt a i with
  | case1 => exact h
  | case2 a k ih =>
    rw [size_down] at ih
    exact ih (down_heapAbove hlt a k _ _ h)

theorem init_heap (hlt : LtOK lt) (a : Array Item) : IsHeap lt (init lt a) (init lt a).size := by
  unfold init
  rw [initLoop_size]
  apply initLoop_heap hlt
  -- a cell from `size / 2` on has no child
  intro k hk0 hkn hlo
  have := parent_eq.mp ⟨hk0, rfl⟩
  omega

theorem init_perm (a : Array Item) : (init lt a).toList.Perm a.toList :=
  (initLoop_perm a _).toList

end Heap

open Heap

def HeapQ (lt : Item → Item → Bool) : Type := { a : Array Item // IsHeap lt a a.size }

/-- the repo's `priorityQueue` (with `Reverse` copying) as a `PQImpl`. `pop` spells out the result of
    `Heap.pop` instead of calling it (`goHeap_pop_eq`): the heap proof has to be attached to the popped array. -/
def goHeap (lt : Item → Item → Bool) (hlt : LtOK lt) : PQImpl where
  Q := HeapQ lt
  empty := ⟨#[], by intro k _ hk; simp at hk⟩
  push q x := ⟨Heap.push lt q.1 x, push_heap hlt q.1 x q.2⟩
  pop q :=
    if h : 0 < q.1.size then
      some (get q.1 0, ⟨_, pop_heap hlt q.1 h q.2⟩)
    else none
  toList q := q.1.toList
  ofList l := ⟨Heap.init lt l.toArray, init_heap hlt _⟩

theorem goHeap_pop_eq (lt : Item → Item → Bool) (hlt : LtOK lt) (q : HeapQ lt) :
    ((goHeap lt hlt).pop q).map (fun p => (p.1, p.2.1)) = Heap.pop lt q.1 := by
  unfold goHeap
  simp only
  by_cases h : 0 < q.1.size
  · simp only [h, dite_true, Option.map_some]
    rw [pop_result q.1 h]
  · simp only [h, dite_false, Option.map_none]
    rw [pop_none q.1 (Nat.eq_zero_of_not_pos h)]

theorem goHeap_lawful (lt : Item → Item → Bool) (hlt : LtOK lt) :
    Lawful (goHeap lt hlt) (fun x y => lt y x = false) where
  empty_list := rfl
  push_perm q x := push_perm q.1 x
  ofList_perm l := init_perm l.toArray
  pop_none q h := by
    have e := goHeap_pop_eq lt hlt q
    rw [h] at e
    by_cases hs : 0 < q.1.size
    · rw [pop_result q.1 hs] at e; cases e
    · exact Array.toList_eq_nil_iff.mpr (Array.eq_empty_of_size_eq_zero (Nat.eq_zero_of_not_pos hs))
  pop_some q x q' h := by
    have e := goHeap_pop_eq lt hlt q
    rw [h] at e
    have := pop_spec hlt q.1 q.2 x q'.1 e.symm
    exact ⟨this.1, this.2.1⟩
  pop_progress q hq := by
    have hs : 0 < q.1.size := Nat.pos_of_ne_zero fun h =>
      hq (Array.toList_eq_nil_iff.mpr (Array.eq_empty_of_size_eq_zero h))
    unfold goHeap
    simp only [hs, dite_true]
    exact ⟨_, _, rfl⟩

theorem ltMin_ok : LtOK ltMin :=
  ⟨by intro a b; simp only [ltMin, decide_eq_true_eq, decide_eq_false_iff_not]; omega,
   by intro a b c; simp only [ltMin, decide_eq_false_iff_not]; omega⟩

/-- `ltMax` is `ltMin` with its arguments exchanged -/
theorem ltMax_ok : LtOK ltMax :=
  ⟨fun a b => ltMin_ok.asymm b a, fun a b c h1 h2 => ltMin_ok.ntrans c b a h2 h1⟩

theorem goMinHeap_lawful : Lawful (goHeap ltMin ltMin_ok) minBetter :=
  (goHeap_lawful ltMin ltMin_ok).mono fun _ _ h => Nat.le_of_not_lt (of_decide_eq_false h)

theorem goMaxHeap_lawful : Lawful (goHeap ltMax ltMax_ok) maxBetter :=
  (goHeap_lawful ltMax ltMax_ok).mono fun _ _ h => Nat.le_of_not_lt (of_decide_eq_false h)

end Anndb
