import Anndb.Model.SharedGroup
/-! Lemmas about the shared group's snapshot / restore (C14, C20). -/
namespace Anndb.Shared

variable {σ β : Type}

theorem update_self (st : State σ) (n : String) (v : σ) : update st n v n = v := if_pos rfl
theorem update_of_ne (st : State σ) (n m : String) (v : σ) (h : m ≠ n) : update st n v m = st m := if_neg h

theorem restore_untouched (ops : String → Consumer σ β) (n : String) (snap : List (String × β)) (st : State σ)
    (h : ∀ e ∈ snap, e.1 ≠ n) : restore ops st snap n = st n :=
  List.foldlRecOn (motive := fun s : State σ => s n = st n) snap _ rfl fun s hs e he =>
    (update_of_ne s e.1 n _ (h e he).symm).trans hs

theorem restore_listed (ops : String → Consumer σ β) (n : String) (b : β) (snap : List (String × β)) (st : State σ)
    (h : (n, b) ∈ snap) (hnd : (snap.map (·.1)).Nodup) : restore ops st snap n = (ops n).restore (st n) b := by
  -- the parts before and after it belong to other consumers
  obtain ⟨l₁, l₂, rfl⟩ := List.append_of_mem h
  have hn : n ∉ (l₁ ++ l₂).map (·.1) := by
    have := (List.perm_middle.map Prod.fst).nodup_iff.mp hnd
    exact (List.nodup_cons.mp this).1
  have hne (l : List (String × β)) (hl : l ⊆ l₁ ++ l₂) : ∀ e ∈ l, e.1 ≠ n :=
    fun e he hen => hn (hen ▸ List.mem_map_of_mem (hl he))
  rw [restore, List.foldl_append, List.foldl_cons]
  exact (restore_untouched ops n l₂ _ (hne l₂ (List.subset_append_right _ _))).trans
    ((update_self _ _ _).trans (congrArg (fun x => (ops n).restore x b)
      (restore_untouched ops n l₁ st (hne l₁ (List.subset_append_left _ _)))))

theorem snapshot_names (ops : String → Consumer σ β) (keep : Bool) (st : State σ) (names : List String) :
    ((snapshot ops names keep st).map (·.1)).Sublist names := by
  induction names with
  | nil => exact .slnil
  | cons n rest ih =>
    unfold snapshot at ih ⊢
    simp only [List.filterMap_cons]
    split
    · exact ih.cons _
    · next h =>
      split at h
      · cases h; exact ih.cons_cons _
      · cases h

theorem mem_snapshot_keep (ops : String → Consumer σ β) (st : State σ) (names : List String) (n : String)
    (h : n ∈ names) : (n, (ops n).snapshot (st n)) ∈ snapshot ops names true st := by
  unfold snapshot
  rw [List.mem_filterMap]
  exact ⟨n, h, by simp⟩

end Anndb.Shared
