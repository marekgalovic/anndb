import Anndb.Model.PQ
/-! Containment as multisets (`Sub`), a choice of the best (`Best`), and the consequences of `Lawful`
for the derived queue operations (`popN`, `drain`, `trimTo`). -/
namespace Anndb

/-- `l₁` is contained in `l₂` as a multiset. -/
def Sub {α : Type} (l₁ l₂ : List α) : Prop := ∃ r, l₂.Perm (l₁ ++ r)

namespace Sub
variable {α β : Type} {l₁ l₂ l₃ : List α}

theorem refl (l : List α) : Sub l l := ⟨[], by simp⟩

theorem of_perm (h : l₁.Perm l₂) : Sub l₁ l₂ := ⟨[], by simpa using h.symm⟩

theorem of_perm_cons {x : α} (h : l₂.Perm (x :: l₁)) : Sub l₁ l₂ :=
  ⟨[x], h.trans (by simpa using (List.perm_append_comm (l₁ := [x]) (l₂ := l₁)))⟩

theorem trans (h₁ : Sub l₁ l₂) (h₂ : Sub l₂ l₃) : Sub l₁ l₃ := by
  obtain ⟨r₁, p₁⟩ := h₁
  obtain ⟨r₂, p₂⟩ := h₂
  refine ⟨r₁ ++ r₂, p₂.trans ?_⟩
  rw [← List.append_assoc]
  exact List.Perm.append_right _ p₁

theorem mem (h : Sub l₁ l₂) {x : α} (hx : x ∈ l₁) : x ∈ l₂ := by
  obtain ⟨r, p⟩ := h
  exact p.mem_iff.mpr (List.mem_append_left _ hx)

theorem nodup_map (f : α → β) (h : Sub l₁ l₂) (hn : (l₂.map f).Nodup) : (l₁.map f).Nodup := by
  obtain ⟨r, p⟩ := h
  have := ((p.map f).nodup_iff).mp hn
  rw [List.map_append] at this
  exact (List.nodup_append.mp this).1

theorem nil (l : List α) : Sub [] l := ⟨l, by simp⟩

end Sub

/-- `l₁` is a sub-multiset of `l₂` and every element of `l₁` scores no more than every element left
out: `l₁` is a choice of the `|l₁|` best of `l₂` -/
def Best (l₁ l₂ : List Item) : Prop :=
  ∃ rest, l₂.Perm (l₁ ++ rest) ∧ ∀ y ∈ l₁, ∀ x ∈ rest, y.score ≤ x.score

theorem Best.sub {l₁ l₂ : List Item} (h : Best l₁ l₂) : Sub l₁ l₂ := by
  obtain ⟨r, p, _⟩ := h; exact ⟨r, p⟩

theorem Best.refl (l : List Item) : Best l l := ⟨[], by simp, by simp⟩

theorem Best.of_perm {l₁ l₂ l₃ : List Item} (h : Best l₁ l₂) (p : l₂.Perm l₃) : Best l₁ l₃ := by
  obtain ⟨r, hp, hd⟩ := h
  exact ⟨r, p.symm.trans hp, hd⟩

theorem Best.perm_left {l₁ l₁' l₂ : List Item} (h : Best l₁ l₂) (p : l₁.Perm l₁') : Best l₁' l₂ := by
  obtain ⟨r, hp, hd⟩ := h
  exact ⟨r, hp.trans (p.append_right r), fun y hy => hd y (p.mem_iff.mpr hy)⟩

namespace Lawful
variable {P : PQImpl} {better better' : Item → Item → Prop} (h : Lawful P better)
include h

theorem mono (hb : ∀ x y, better x y → better' x y) : Lawful P better' :=
  { h with pop_some := fun q x q' hp =>
      ⟨(h.pop_some q x q' hp).1, fun y hy => hb x y ((h.pop_some q x q' hp).2 y hy)⟩ }

theorem len_pop {q q' : P.Q} {x : Item} (hp : P.pop q = some (x, q')) : P.len q = P.len q' + 1 :=
  (h.pop_some q x q' hp).1.length_eq

theorem push_empty (x : Item) : (P.toList (P.push P.empty x)).Perm [x] :=
  h.empty_list ▸ h.push_perm P.empty x

end Lawful

namespace PQImpl
variable {P : PQImpl} {better : Item → Item → Prop} (h : Lawful P better)
include h

theorem popN_perm (n : Nat) (q : P.Q) :
    (P.toList q).Perm ((P.popN n q).1 ++ P.toList (P.popN n q).2) := by
  fun_induction popN P n q with
  | case1 | case2 => exact .refl _
  | case3 n q x q' hp xs q'' hr ih =>
    rw [hr] at ih
    exact (h.pop_some _ _ _ hp).1.trans (ih.cons x)

theorem popN_length (n : Nat) (q : P.Q) : (P.popN n q).1.length = min n (P.len q) := by
  fun_induction popN P n q with
  | case1 => exact (Nat.zero_min _).symm
  | case2 n q hp => simp [len, h.pop_none q hp]
  | case3 n q x q' hp xs q'' hr ih =>
    rw [hr] at ih
    rw [List.length_cons, ih, h.len_pop hp, Nat.succ_min_succ]

theorem popN_rest (n : Nat) (q : P.Q) (hn : P.len q ≤ n) : P.toList (P.popN n q).2 = [] := by
  have := (popN_perm h n q).length_eq
  rw [List.length_append, popN_length h, Nat.min_eq_right hn] at this
  exact List.eq_nil_of_length_eq_zero (Nat.left_eq_add.mp this)

theorem popN_perm_all (n : Nat) (q : P.Q) (hn : P.len q ≤ n) : (P.popN n q).1.Perm (P.toList q) := by
  have := popN_perm h n q
  rw [popN_rest h n q hn, List.append_nil] at this
  exact this.symm

theorem drain_perm (q : P.Q) : (P.drain q).Perm (P.toList q) := popN_perm_all h _ q (Nat.le_refl _)

theorem popN_pairwise (n : Nat) (q : P.Q) : (P.popN n q).1.Pairwise better := by
  fun_induction popN P n q with
  | case1 | case2 => exact .nil
  | case3 n q x q' hp xs q'' hr ih =>
    rw [hr] at ih
    have ⟨hperm, hall⟩ := h.pop_some _ _ _ hp
    refine List.pairwise_cons.mpr ⟨fun y hy => hall y (hperm.mem_iff.mpr (List.mem_cons_of_mem _ ?_)), ih⟩
    have := popN_perm h n q'
    rw [hr] at this
    exact this.mem_iff.mpr (List.mem_append_left _ hy)

theorem drain_pairwise (q : P.Q) : (P.drain q).Pairwise better := popN_pairwise h _ q

theorem trimTo_spec (k fuel : Nat) (q : P.Q) :
    ∃ rest, (P.toList q).Perm (P.toList (P.trimTo k fuel q) ++ rest) ∧
      (∀ y ∈ P.toList (P.trimTo k fuel q), ∀ x ∈ rest, better x y) ∧
      (P.len q ≤ k + fuel → P.len (P.trimTo k fuel q) = min k (P.len q)) := by
  fun_induction trimTo P k fuel q with
  | case1 q => exact ⟨[], by simp, nofun, fun hf => (Nat.min_eq_right hf).symm⟩
  | case2 f q hgt hp =>
    exact absurd (h.pop_none q hp ▸ hgt : ([] : List Item).length > k) (Nat.not_lt_zero _)
  | case3 f q hgt x q' hp ih =>
    have hpop := h.pop_some _ _ _ hp
    obtain ⟨r', p', d', hl'⟩ := ih
    rw [h.len_pop hp] at hgt ⊢
    refine ⟨x :: r', hpop.1.trans ((p'.cons x).trans List.perm_middle.symm), fun y hy z hz => ?_,
      fun hf => by rw [hl' (Nat.le_of_succ_le_succ hf), Nat.min_eq_left (Nat.le_of_lt_succ hgt),
        Nat.min_eq_left (Nat.le_of_lt hgt)]⟩
    rcases List.mem_cons.mp hz with rfl | hz
    · exact hpop.2 y (hpop.1.mem_iff.mpr (List.mem_cons_of_mem _ (p'.mem_iff.mpr (List.mem_append_left _ hy))))
    · exact d' y hy z hz
  | case4 f q hle => exact ⟨[], by simp, nofun, fun _ => (Nat.min_eq_right (Nat.le_of_not_gt hle)).symm⟩

theorem trimTo_length (k fuel : Nat) (q : P.Q) (hf : P.len q ≤ k + fuel) :
    P.len (P.trimTo k fuel q) = min k (P.len q) :=
  let ⟨_, _, _, hl⟩ := trimTo_spec h k fuel q; hl hf

omit h in
theorem trimTo_best (h : Lawful P maxBetter) (k fuel : Nat) (q : P.Q) :
    Best (P.toList (P.trimTo k fuel q)) (P.toList q) :=
  let ⟨r, p, d, _⟩ := trimTo_spec h k fuel q; ⟨r, p, d⟩

end PQImpl
end Anndb
