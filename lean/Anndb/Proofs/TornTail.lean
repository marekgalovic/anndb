import Anndb.Model.TornTail

namespace Anndb.TornTail

theorem parse_nil : parse [] = ([], true) := by
  rw [parse]

theorem parse_cons (n : Nat) (rest : List Nat) :
    parse (n :: rest) = if n ≤ rest.length then (rest.take n :: (parse (rest.drop n)).1, (parse (rest.drop n)).2) else ([], false) := by
  rw [parse]

theorem parse_encodeAll_append (rs : List Rec) (tail : List Nat) :
    parse (encodeAll rs ++ tail) = (rs ++ (parse tail).1, (parse tail).2) := by
  induction rs with
  | nil => rfl
  | cons r rs ih =>
    show parse (r.length :: (r ++ encodeAll rs ++ tail)) = _
    rw [parse_cons, List.append_assoc, if_pos (by simp), List.take_left, List.drop_left, ih]
    rfl

/-- a prefix of one record parses to `[r]` iff it is all of it; it ends on a record boundary iff it is empty or all of it -/
theorem parse_take_encode (r : Rec) (k : Nat) (hk : k ≤ (encode r).length) :
    parse ((encode r).take k) =
      (if k = (encode r).length then [r] else [], decide (k = 0 ∨ k = (encode r).length)) := by
  cases k with
  | zero => rw [List.take_zero, parse_nil, if_neg (by simp [encode])]; rfl
  | succ j =>
    have hj : j ≤ r.length := Nat.le_of_succ_le_succ hk
    rw [encode, List.take_succ_cons, parse_cons, List.length_take, Nat.min_eq_left hj]
    rcases Nat.lt_or_eq_of_le hj with hlt | rfl
    · simp [Nat.not_le.mpr hlt, Nat.ne_of_lt hlt]
    · simp [parse_nil]

end Anndb.TornTail
