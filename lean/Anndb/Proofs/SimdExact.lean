import Mathlib.Tactic.Ring
import Mathlib.Algebra.BigOperators.Group.List.Basic
import Mathlib.Algebra.Order.Field.Basic
import Anndb.Model.Simd
/-!
# The kernels in exact arithmetic (C15)

The same definitions the driver runs at `Float32`, instantiated at an arbitrary (ordered) field:
the blocked AVX / SSE reductions compute the plain sum, hence all three implementations compute
the same function when arithmetic is exact.
-/
namespace Anndb.Simd

def exactOps (α : Type) [Field α] (sqrt abs : α → α) : Ops α :=
  ⟨0, 1, (· + ·), (· - ·), (· * ·), (· / ·), sqrt, abs⟩

theorem length_vecTerms {α : Type} (w : Nat) (f : α → α → α) {a b : List α} (hab : a.length = b.length) :
    (List.zipWith f (a.take (a.length / w * w)) (b.take (a.length / w * w))).length = a.length / w * w := by
  rw [List.length_zipWith, List.length_take, List.length_take, ← hab, Nat.min_self,
    Nat.min_eq_left (Nat.div_mul_le_self _ _)]

theorem length_tailTerms {α : Type} (w : Nat) (f : α → α → α) {a b : List α} (hab : a.length = b.length) :
    (List.zipWith f (a.drop (a.length / w * w)) (b.drop (a.length / w * w))).length = a.length % w := by
  rw [List.length_zipWith, List.length_drop, List.length_drop, ← hab, Nat.min_self, Nat.mod_eq_sub_div_mul]

section
-- `sq`, `ab` are explicit in every lemma of this section that mentions `E`; none inspects them
variable {α : Type} [Field α] (sq ab : α → α)

local notation "E" => exactOps α sq ab

theorem addLanes_sum (acc blk : List α) (h : acc.length = blk.length) :
    (addLanes E acc blk).sum = acc.sum + blk.sum :=
  (List.sum_add_sum_eq_sum_zipWith_of_length_eq acc blk h).symm

theorem addLanes_length (acc blk : List α) (h : acc.length = blk.length) :
    (addLanes E acc blk).length = acc.length := by
  rw [addLanes, List.length_zipWith, h, Nat.min_self]

theorem chunks_length (w : Nat) : ∀ (k : Nat) (l : List α), k * w ≤ l.length →
    ∀ c ∈ chunks w k l, c.length = w
  | 0, _, _, c, hc => by simp [chunks] at hc
  | k+1, l, h, c, hc => by
    rw [Nat.succ_mul] at h
    simp only [chunks, List.mem_cons] at hc
    rcases hc with rfl | hc
    · rw [List.length_take]; exact Nat.min_eq_left (Nat.le_of_add_left_le h)
    · exact chunks_length w k (l.drop w) (by rw [List.length_drop]; exact Nat.le_sub_of_add_le h) c hc

theorem chunks_sum (w : Nat) : ∀ (k : Nat) (l : List α), k * w ≤ l.length →
    ((chunks w k l).map List.sum).sum = (l.take (k * w)).sum
  | 0, l, _ => by simp [chunks]
  | k+1, l, h => by
    rw [Nat.succ_mul] at h
    simp only [chunks, List.map_cons, List.sum_cons]
    rw [chunks_sum w k (l.drop w) (by rw [List.length_drop]; exact Nat.le_sub_of_add_le h),
      Nat.succ_mul, Nat.add_comm, ← List.sum_append,
      ← List.take_add]  -- take (w + k*w) l = take w l ++ take (k*w) (drop w l)

theorem foldl_addLanes_sum (w : Nat) : ∀ (cs : List (List α)) (acc : List α), acc.length = w →
    (∀ c ∈ cs, c.length = w) → (cs.foldl (addLanes E) acc).sum = acc.sum + (cs.map List.sum).sum
  | [], acc, _, _ => by simp
  | c :: cs, acc, ha, hc => by
    have hl : acc.length = c.length := ha.trans (hc c List.mem_cons_self).symm
    simp only [List.foldl_cons, List.map_cons, List.sum_cons]
    rw [foldl_addLanes_sum w cs _ ((addLanes_length sq ab acc c hl).trans ha)
      fun d hd => hc d (List.mem_cons_of_mem _ hd), addLanes_sum sq ab acc c hl, add_assoc]

theorem foldl_addLanes_length (w : Nat) : ∀ (cs : List (List α)) (acc : List α), acc.length = w →
    (∀ c ∈ cs, c.length = w) → (cs.foldl (addLanes E) acc).length = w :=
  fun cs _ ha hc => List.foldlRecOn (motive := fun acc => acc.length = w) cs _ ha fun acc ha c hcs =>
    (addLanes_length sq ab acc c (ha.trans (hc c hcs).symm)).trans ha

theorem lanes_sum (w : Nat) (terms : List α) :
    (lanes E w terms).sum = (terms.take ((terms.length / w) * w)).sum ∧ (lanes E w terms).length = w := by
  have hk : (terms.length / w) * w ≤ terms.length := Nat.div_mul_le_self _ _
  have hc := chunks_length w _ terms hk
  unfold lanes
  constructor
  · rw [foldl_addLanes_sum sq ab w _ _ List.length_replicate hc, chunks_sum w _ _ hk]
    show (List.replicate w (0 : α)).sum + _ = _
    simp
  · exact foldl_addLanes_length sq ab w _ _ List.length_replicate hc

theorem hsum8_eq (v : List α) (h : v.length = 8) : hsum8 E v = v.sum := by
  match v, h with
  | [a, b, c, d, e, f, g, i], _ =>
    show ((a + b) + (c + d)) + ((e + f) + (g + i)) = _
    simp only [List.sum_cons, List.sum_nil, add_assoc, add_zero]

theorem hsum4_eq (v : List α) (h : v.length = 4) : hsum4 E v = v.sum := by
  match v, h with
  | [a, b, c, d], _ =>
    show ((a + b) + c) + d = _
    simp only [List.sum_cons, List.sum_nil, add_assoc, add_zero]

theorem width_pos {w : Nat} (hw : w = 8 ∨ w = 4) : 0 < w := by
  rcases hw with rfl | rfl <;> decide

theorem hsum_eq_sum (w : Nat) (hw : w = 8 ∨ w = 4) (v : List α) (h : v.length = w) : hsum E w v = v.sum := by
  rcases hw with rfl | rfl
  · exact hsum8_eq sq ab v h
  · exact hsum4_eq sq ab v h

theorem foldl_add_sum (l : List α) (init : α) : l.foldl (E).add init = init + l.sum := by
  induction l generalizing init with
  | nil => exact (add_zero _).symm
  | cons x t ih => rw [List.foldl_cons, List.sum_cons, ih]; exact add_assoc _ _ _

theorem seqSum_eq_sum (f : α → α → α) (a b : List α) : seqSum E f a b = (List.zipWith f a b).sum :=
  (foldl_add_sum sq ab _ _).trans (zero_add _)

/-- **Blocked reduction = plain sum** (8 lanes with the `vhaddps` tree, or 4 lanes left to right),
for every length. -/
theorem blocked_eq_sum (w : Nat) (hw : w = 8 ∨ w = 4) (f : α → α → α) (a b : List α)
    (hab : a.length = b.length) :
    blocked E w f f a b = (List.zipWith f a b).sum := by
  obtain ⟨hs, hl⟩ := lanes_sum sq ab w
    (List.zipWith f (a.take (a.length / w * w)) (b.take (a.length / w * w)))
  rw [length_vecTerms w f hab, Nat.mul_div_cancel _ (width_pos hw)] at hs
  unfold blocked
  rw [foldl_add_sum, hsum_eq_sum sq ab w hw _ hl, hs, ← List.take_zipWith, List.take_take, Nat.min_self,
    ← List.drop_zipWith, List.sum_take_add_sum_drop]

end

section
variable {α : Type} [Field α] [LinearOrder α] [IsStrictOrderedRing α] (sq : α → α)

local notation "E" => exactOps α sq (fun x => |x|)

theorem sum_zipWith_nonneg {f : α → α → α} (hf : ∀ x y, 0 ≤ f x y) (a b : List α) :
    0 ≤ (List.zipWith f a b).sum := by
  induction a generalizing b with
  | nil => exact le_rfl
  | cons x a ih => cases b with
    | nil => exact le_rfl
    | cons y b => exact add_nonneg (hf x y) (ih b)

theorem blocked_metric (w : Nat) (hw : w = 8 ∨ w = 4) {f : α → α → α} (hc : ∀ x y, f x y = f y x)
    (hn : ∀ x y, 0 ≤ f x y) (hz : ∀ x, f x x = 0) (a b : List α) (hab : a.length = b.length) :
    blocked E w f f a b = blocked E w f f b a ∧ 0 ≤ blocked E w f f a b ∧ blocked E w f f a a = 0 := by
  rw [blocked_eq_sum sq _ w hw f a b hab, blocked_eq_sum sq _ w hw f b a hab.symm,
    blocked_eq_sum sq _ w hw f a a rfl]
  exact ⟨congrArg _ (List.zipWith_comm_of_comm hc), sum_zipWith_nonneg hn a b,
    by simp [List.zipWith_self, hz]⟩

theorem sqDiff_comm (x y : α) : sqDiff E x y = sqDiff E y x := by
  show (x - y) * (x - y) = (y - x) * (y - x); ring

theorem sqDiff_exact_nonneg (x y : α) : 0 ≤ sqDiff E x y := mul_self_nonneg _

/-- squared Euclidean distance: symmetric, non-negative, zero on self (exact arithmetic), for the
AVX, the SSE and the portable evaluation order alike -/
theorem euclidSq_props (w : Nat) (hw : w = 8 ∨ w = 4) (a b : List α) (hab : a.length = b.length) :
    euclidSq E w a b = euclidSq E w b a ∧ 0 ≤ euclidSq E w a b ∧ euclidSq E w a a = 0 :=
  blocked_metric sq w hw (sqDiff_comm sq) (sqDiff_exact_nonneg sq)
    (fun x => show (x - x) * (x - x) = 0 by rw [sub_self, mul_zero]) a b hab

theorem euclid_impls_agree (a b : List α) (hab : a.length = b.length) :
    euclidSq E 8 a b = euclidSq E 4 a b ∧ euclidSq E 8 a b = seqSum E (sqDiff E) a b := by
  unfold euclidSq
  rw [blocked_eq_sum sq _ 8 (Or.inl rfl) _ a b hab, blocked_eq_sum sq _ 4 (Or.inr rfl) _ a b hab, seqSum_eq_sum]
  exact ⟨rfl, rfl⟩

/-- `hsq` makes the vector part (`sqrt (d*d)`) and the tail (`|d|`) compute the same terms. It holds
in the reals, *not* in floating point once `d*d` under- or overflows: the known findings. -/
theorem manhattan_props (hsq : ∀ x : α, sq (x * x) = |x|) (w : Nat) (hw : w = 8 ∨ w = 4)
    (a b : List α) (hab : a.length = b.length) :
    manhattan E w a b = nativeManhattan E a b ∧ manhattan E w a b = manhattan E w b a ∧
    0 ≤ manhattan E w a b ∧ manhattan E w a a = 0 := by
  have hf : (fun x y => (E).sqrt (sqDiff E x y)) = fun x y => |x - y| :=
    funext fun x => funext fun y => hsq (x - y)
  unfold manhattan
  rw [hf]
  exact ⟨(blocked_eq_sum sq _ w hw _ a b hab).trans (seqSum_eq_sum sq _ _ a b).symm,
    blocked_metric sq w hw (fun x y => abs_sub_comm x y) (fun _ _ => abs_nonneg _)
      (fun x => by rw [sub_self, abs_zero]) a b hab⟩

theorem cosine_sums (w : Nat) (hw : w = 8 ∨ w = 4) (a b : List α) (hab : a.length = b.length) :
    blocked E w (E).mul (E).mul a b = (List.zipWith (· * ·) a b).sum ∧
    blocked E w (fun x _ => (E).mul x x) (fun x _ => (E).mul x x) a b = (List.zipWith (fun x _ => x * x) a b).sum ∧
    blocked E w (fun _ y => (E).mul y y) (fun _ y => (E).mul y y) a b = (List.zipWith (fun _ y => y * y) a b).sum :=
  ⟨blocked_eq_sum sq _ w hw _ a b hab, blocked_eq_sum sq _ w hw _ a b hab, blocked_eq_sum sq _ w hw _ a b hab⟩

theorem cosine_symm (w : Nat) (hw : w = 8 ∨ w = 4) (a b : List α) (hab : a.length = b.length) :
    cosine E w a b = cosine E w b a := by
  obtain ⟨h1, h2, h3⟩ := cosine_sums sq w hw a b hab
  obtain ⟨g1, g2, g3⟩ := cosine_sums sq w hw b a hab.symm
  unfold cosine
  simp only [h1, h2, h3, g1, g2, g3]
  -- swapping the operands swaps the two norms and leaves each dot-product term as it is
  rw [List.zipWith_comm_of_comm (l := b) (l' := a) mul_comm,
    List.zipWith_comm (f := fun x _ : α => x * x) (as := b),
    List.zipWith_comm (f := fun _ y : α => y * y) (as := b)]
  show 1 - _ / sq (_ * _) = 1 - _ / sq (_ * _)
  rw [mul_comm]

/-- The kernels divide by `√(‖a‖²·‖b‖²)`, the portable code by `√‖a‖²·√‖b‖²`: `hmul` is the one
identity between them. In float32 the product `‖a‖²·‖b‖²` can leave the range where neither
factor's root does: the known findings. -/
theorem cosine_impls_agree (w : Nat) (hw : w = 8 ∨ w = 4) (a b : List α) (hab : a.length = b.length)
    (hmul : sq ((List.zipWith (fun x _ => x * x) a b).sum * (List.zipWith (fun _ y => y * y) a b).sum) =
      sq (List.zipWith (fun x _ => x * x) a b).sum * sq (List.zipWith (fun _ y => y * y) a b).sum) :
    cosine E w a b = nativeCosine E a b := by
  obtain ⟨h1, h2, h3⟩ := cosine_sums sq w hw a b hab
  unfold cosine nativeCosine
  simp only [h1, h2, h3, seqSum_eq_sum]
  show 1 - _ / sq (_ * _) = 1 - _ / (sq _ * sq _)
  rw [hmul]
  rfl

end

/-! ### which elements are read -/

theorem vecLoads_eq (w : Nat) : ∀ (k : Nat),
    ((List.range k).flatMap fun blk => (List.range w).map fun l => blk * w + l) = List.range (k * w)
  | 0 => by simp
  | k+1 => by
    rw [List.range_succ, List.flatMap_append, vecLoads_eq w k]
    simp only [List.flatMap_cons, List.flatMap_nil, List.append_nil]
    rw [Nat.succ_mul, List.range_add]

theorem loads_exact (w n : Nat) : vecLoads w n ++ tailLoads w n = List.range n := by
  unfold vecLoads tailLoads
  rw [vecLoads_eq w (n / w), ← List.range_add, Nat.add_sub_cancel' (Nat.div_mul_le_self n w)]

theorem loads_in_bounds (w n i : Nat) (h : i ∈ vecLoads w n ++ tailLoads w n) : i < n := by
  rw [loads_exact] at h; exact List.mem_range.mp h

end Anndb.Simd
