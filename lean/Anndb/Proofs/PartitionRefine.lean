import Anndb.Proofs.HnswEffect
/-!
# `partition.go`'s state machine refines the finite-map specification (C02, C04)
-/
namespace Anndb

theorem u64_add_not_pred (x y : UInt64) : x + ~~~(y - 1) = x - y := by
  -- `~~~a = -a - 1 = -(a + 1)`
  rw [UInt64.not_eq_neg_sub, ← UInt64.neg_add, UInt64.sub_add_cancel, UInt64.add_neg_eq_sub]

theorem u64_add_not_zero (x : UInt64) : x + ~~~(0 : UInt64) = x - 1 := by
  rw [UInt64.not_zero, ← UInt64.sub_eq_add_neg]

theorem perm_cons_filter_ne {α : Type} [DecidableEq α] {l : List α} (hn : l.Nodup) {a : α} (ha : a ∈ l) :
    l.Perm (a :: l.filter (· ≠ a)) := by
  have : l.filter (· ≠ a) = l.erase a := by
    rw [hn.erase_eq_filter]
    exact List.filter_congr fun x _ => by rw [bne, decide_not]; rfl
  rw [this]
  exact List.perm_cons_erase ha

namespace Spec

@[simp] theorem get_set (s : Spec) (id : ItemId) (it : SItem) (i : ItemId) :
    (s.set id it).get i = if i = id then some it else s.get i := rfl

@[simp] theorem get_erase (s : Spec) (id i : ItemId) :
    (s.erase id).get i = if i = id then none else s.get i := rfl

variable (dim : Nat)

theorem dataBytes_set (sp : Spec) (id : ItemId) (it : SItem) (hid : id ∉ sp.ids) :
    (sp.set id it).dataBytes dim = vertexBytes dim it.md + sp.dataBytes dim := by
  unfold Spec.dataBytes
  rw [show (sp.set id it).ids = id :: sp.ids from rfl, List.map_cons, List.sum_cons, get_set, if_pos rfl]
  congr 2
  exact List.map_congr_left fun i hi => by
    rw [get_set, if_neg fun (he : i = id) => hid (he ▸ hi)]

theorem dataBytes_erase (sp : Spec) (id : ItemId) (it : SItem) (hn : sp.ids.Nodup) (hid : id ∈ sp.ids)
    (hg : sp.get id = some it) :
    sp.dataBytes dim = vertexBytes dim it.md + (sp.erase id).dataBytes dim := by
  unfold Spec.dataBytes
  rw [((perm_cons_filter_ne hn hid).map _).sum_nat, List.map_cons, List.sum_cons, hg]
  congr 2
  exact List.map_congr_left fun i hi => by
    rw [get_erase, if_neg (by simpa using (List.mem_filter.mp hi).2)]

end Spec

/-- the partition `p` against the finite-map specification `sp`: the contents through `absI`, the id list,
the two `UInt64` counters (equal modulo 2^64); `inv`, `alloc` are what the index itself has to keep -/
structure Refines (dim : Nat) (p : PState) (sp : Spec) : Prop where
  inv : Inv p.idx
  alloc : Alloc p.idx
  abs : ∀ i, absI p.idx i = sp.get i
  ids : p.idx.ids = sp.ids
  nodup : sp.ids.Nodup
  len : p.len = UInt64.ofNat sp.len
  bytes : p.bytes = UInt64.ofNat (sp.dataBytes dim)

theorem refines_empty (dim : Nat) : Refines dim PState.empty Spec.empty :=
  ⟨inv_empty.1, inv_empty.2, fun _ => rfl, rfl, List.nodup_nil, rfl, rfl⟩

namespace Refines
variable {dim : Nat} {p : PState} {sp : Spec}

theorem get_none_iff (h : Refines dim p sp) (i : ItemId) : sp.get i = none ↔ p.idx.live i = none := by
  rw [← h.abs i]
  exact absI_eq_none_iff h.alloc i

theorem get_live (h : Refines dim p sp) {i : ItemId} {v : Vid} (hl : p.idx.live i = some v) :
    sp.get i = some ⟨p.idx.vecOf v, p.idx.mdOf v, p.idx.levelOf v⟩ := by
  rw [← h.abs i]
  exact absI_live h.alloc hl

theorem mem_ids_iff (h : Refines dim p sp) (i : ItemId) : i ∈ sp.ids ↔ sp.get i ≠ none := by
  rw [← h.ids, h.alloc.idsLive i, Ne, Ne, h.get_none_iff]

theorem ids_empty_iff (h : Refines dim p sp) : sp.ids.isEmpty = true ↔ p.idx.entry = none := by
  rw [← h.ids, List.isEmpty_iff]
  exact (h.inv.entry_none_iff h.alloc).symm

theorem agree {p' : PState} (h : Refines dim p sp) (h' : Refines dim p' sp) :
    (∀ i, absI p.idx i = absI p'.idx i) ∧ p.len = p'.len ∧ p.bytes = p'.bytes :=
  ⟨fun i => (h.abs i).trans (h'.abs i).symm, h.len.trans h'.len.symm, h.bytes.trans h'.bytes.symm⟩

/-- the counters as `storeVertex` updates them -/
theorem set (h : Refines dim p sp) {s' : Index} {id : ItemId} {it : SItem} (hg : sp.get id = none)
    (hs' : Inv s' ∧ Alloc s') (habs : ∀ i, absI s' i = if i = id then some it else absI p.idx i)
    (hids : s'.ids = id :: p.idx.ids) :
    Refines dim ⟨s', p.len + 1, p.bytes + (vertexBytes dim it.md).toUInt64⟩ (sp.set id it) := by
  have hnotin : id ∉ sp.ids := fun hm => (h.mem_ids_iff id).mp hm hg
  refine ⟨hs'.1, hs'.2, fun i => ?_, hids.trans (congrArg _ h.ids), List.nodup_cons.mpr ⟨hnotin, h.nodup⟩, ?_, ?_⟩
  · rw [habs i, Spec.get_set, h.abs]
  · show p.len + 1 = UInt64.ofNat (sp.ids.length + 1)
    rw [UInt64.ofNat_add, h.len]; rfl
  · show p.bytes + _ = UInt64.ofNat ((sp.set id it).dataBytes dim)
    rw [Spec.dataBytes_set dim sp id _ hnotin, UInt64.ofNat_add, h.bytes, UInt64.add_comm]

/-- the counters as `removeVertex` updates them: `x + ^(y-1)` for `x - y` -/
theorem erase (h : Refines dim p sp) {s' : Index} {id : ItemId} {it : SItem} (hg : sp.get id = some it)
    (hs' : Inv s' ∧ Alloc s') (habs : ∀ i, absI s' i = if i = id then none else absI p.idx i)
    (hids : s'.ids = p.idx.ids.filter (· ≠ id)) :
    Refines dim ⟨s', p.len + ~~~(0 : UInt64), p.bytes + ~~~((vertexBytes dim it.md).toUInt64 - 1)⟩ (sp.erase id) := by
  have hin : id ∈ sp.ids := (h.mem_ids_iff id).mpr (by simp [hg])
  refine ⟨hs'.1, hs'.2, fun i => ?_, hids.trans (congrArg _ h.ids), h.nodup.filter _, ?_, ?_⟩
  · rw [habs i, Spec.get_erase, h.abs]
  · show p.len + ~~~(0 : UInt64) = UInt64.ofNat (sp.ids.filter (· ≠ id)).length
    rw [u64_add_not_zero, h.len, Spec.len, (perm_cons_filter_ne h.nodup hin).length_eq, List.length_cons,
      UInt64.ofNat_add]
    exact UInt64.add_sub_cancel _ _
  · show p.bytes + ~~~(_ - 1) = UInt64.ofNat ((sp.erase id).dataBytes dim)
    rw [u64_add_not_pred, h.bytes, Spec.dataBytes_erase dim sp id _ h.nodup hin hg, UInt64.ofNat_add, UInt64.add_comm]
    exact UInt64.add_sub_cancel _ _

end Refines

section
variable {Pmin Pmax : PQImpl} {dist : VecRef → VecRef → Score} (cfg : Cfg) (dim : Nat)
variable (pick : List ItemId → Option ItemId)

def runLog (p : PState) : List Change → PState × List Result
  | [] => (p, [])
  | c :: cs =>
    let r := process Pmin Pmax dist cfg dim pick p c
    let rest := runLog r.1 cs
    (rest.1, r.2 :: rest.2)

def Spec.runLog (s : Spec) : List Change → Spec × List Result
  | [] => (s, [])
  | c :: cs =>
    let r := s.step c
    let rest := Spec.runLog r.1 cs
    (rest.1, r.2 :: rest.2)

end

section
variable (Pmin Pmax : PQImpl) (dist : VecRef → VecRef → Score) (cfg : Cfg) (dim : Nat)
variable (pick : List ItemId → Option ItemId) {p : PState} {sp : Spec}

theorem refines_insert (h : Refines dim p sp) (id : ItemId) (vec : VecRef) (md : Meta) (level : Nat) :
    Refines dim (pInsert Pmin Pmax dist cfg dim p id vec md level).1 (sp.insert id vec md level).1 ∧
    (pInsert Pmin Pmax dist cfg dim p id vec md level).2 = (sp.insert id vec md level).2 := by
  unfold pInsert Spec.insert
  by_cases hfit : mdFits md = false
  · rw [if_pos hfit, if_pos hfit]; exact ⟨h, rfl⟩
  rw [if_neg hfit, if_neg hfit]
  cases hr : insert Pmin Pmax dist cfg p.idx id vec md level with
  | error e =>
    cases hg : sp.get id with
    | none =>
      obtain ⟨s', hs⟩ := (insert_isOk_iff Pmin Pmax dist cfg p.idx id vec md level).mpr ((h.get_none_iff id).mp hg)
      rw [hs] at hr; cases hr
    | some it => exact ⟨h, rfl⟩
  | ok s' =>
    obtain ⟨hl, habs, hids⟩ := insert_effect cfg p.idx id vec md level h.alloc s' hr
    have hg : sp.get id = none := (h.get_none_iff id).mpr hl
    -- the very first item goes to level 0 on both sides
    simp only [hg, h.ids_empty_iff]
    exact ⟨h.set (it := ⟨vec, md, _⟩) hg (inv_insert cfg p.idx id vec md level h.inv h.alloc s' hr) habs hids, trivial⟩

theorem refines_remove (hp : PickOK pick) (h : Refines dim p sp) (id : ItemId) :
    Refines dim (pRemove Pmin Pmax dist cfg dim pick p id).1 (sp.delete id).1 ∧
    (pRemove Pmin Pmax dist cfg dim pick p id).2 = (sp.delete id).2 := by
  unfold pRemove Spec.delete
  cases hl : p.idx.live id with
  | none =>
    simp only [(h.get_none_iff id).mpr hl]
    exact ⟨h, trivial⟩
  | some v =>
    obtain ⟨s', hr⟩ := (remove_isOk_iff Pmin Pmax dist cfg p.idx id pick).mpr (by simp [hl])
    obtain ⟨habs, hids⟩ := remove_effect cfg p.idx id pick h.alloc s' hr
    have hg := h.get_live hl
    simp only [hr, hg]
    exact ⟨h.erase (it := ⟨_, p.idx.mdOf v, _⟩) hg (inv_remove cfg p.idx id pick hp h.inv h.alloc s' hr) habs hids, trivial⟩

theorem refines_update (hp : PickOK pick) (h : Refines dim p sp) (id : ItemId) (vec : VecRef) (md : Meta) :
    Refines dim (pUpdate Pmin Pmax dist cfg dim pick p id vec md).1 (sp.update id vec md).1 ∧
    (pUpdate Pmin Pmax dist cfg dim pick p id vec md).2 = (sp.update id vec md).2 := by
  unfold pUpdate Spec.update
  cases hl : p.idx.live id with
  | none =>
    simp only [(h.get_none_iff id).mpr hl]
    exact ⟨h, trivial⟩
  | some v =>
    have hg := h.get_live hl
    simp only [hg]
    by_cases hfit : mdFits (mergeMd md (p.idx.mdOf v)) = false
    · rw [if_pos hfit, if_pos hfit]; exact ⟨h, rfl⟩
    rw [if_neg hfit, if_neg hfit]
    obtain ⟨hr1, hr2⟩ := refines_remove Pmin Pmax dist cfg dim pick hp h id
    rw [show sp.delete id = (sp.erase id, .ok) by simp [Spec.delete, hg]] at hr1 hr2
    generalize pRemove Pmin Pmax dist cfg dim pick p id = rem at hr1 hr2 ⊢
    obtain ⟨p1, o⟩ := rem
    cases hr2
    exact refines_insert Pmin Pmax dist cfg dim hr1 id vec _ _

theorem refines_batchFold (f : PState → BatchItem → PState × Outcome) (g : Spec → BatchItem → Spec × Outcome)
    (hfg : ∀ p sp it, Refines dim p sp → Refines dim (f p it).1 (g sp it).1 ∧ (f p it).2 = (g sp it).2)
    (h : Refines dim p sp) (items : List BatchItem) :
    Refines dim (batchFold f p items).1 (Spec.batchFold g sp items).1 ∧
    (batchFold f p items).2 = (Spec.batchFold g sp items).2 := by
  refine List.foldl_rel (r := fun (a : PState × List (ItemId × Outcome)) (b : Spec × List (ItemId × Outcome)) =>
    Refines dim a.1 b.1 ∧ a.2 = b.2) ⟨h, rfl⟩ ?_
  intro it _ a b ⟨hab, herr⟩
  obtain ⟨h1, h2⟩ := hfg a.1 b.1 it hab
  generalize f a.1 it = fr at h1 h2
  generalize g b.1 it = gr at h1 h2
  obtain ⟨p', o⟩ := fr
  obtain ⟨sp', _⟩ := gr
  cases h2
  rw [herr]
  cases o <;> exact ⟨h1, rfl⟩

theorem refines_process (hp : PickOK pick) (h : Refines dim p sp) (c : Change) :
    Refines dim (process Pmin Pmax dist cfg dim pick p c).1 (sp.step c).1 ∧
    (process Pmin Pmax dist cfg dim pick p c).2 = (sp.step c).2 := by
  cases c with
  | insert id vec md level =>
    exact (refines_insert Pmin Pmax dist cfg dim h id vec md level).imp_right (congrArg _)
  | update id vec md =>
    exact (refines_update Pmin Pmax dist cfg dim pick hp h id vec md).imp_right (congrArg _)
  | delete id =>
    exact (refines_remove Pmin Pmax dist cfg dim pick hp h id).imp_right (congrArg _)
  | batchInsert items =>
    exact (refines_batchFold dim _ _ (fun _ _ it hq =>
      refines_insert Pmin Pmax dist cfg dim hq it.id it.vec it.md it.level) h items).imp_right (congrArg _)
  | batchUpdate items =>
    exact (refines_batchFold dim _ _ (fun _ _ it hq =>
      refines_update Pmin Pmax dist cfg dim pick hp hq it.id it.vec it.md) h items).imp_right (congrArg _)
  | batchDelete items =>
    exact (refines_batchFold dim _ _ (fun _ _ it hq =>
      refines_remove Pmin Pmax dist cfg dim pick hp hq it.id) h items).imp_right (congrArg _)

theorem refines_runLog (hp : PickOK pick) {p : PState} {sp : Spec} (h : Refines dim p sp) (log : List Change) :
    Refines dim (runLog (Pmin := Pmin) (Pmax := Pmax) (dist := dist) cfg dim pick p log).1 (sp.runLog log).1 ∧
    (runLog (Pmin := Pmin) (Pmax := Pmax) (dist := dist) cfg dim pick p log).2 = (sp.runLog log).2 := by
  induction log generalizing p sp with
  | nil => exact ⟨h, rfl⟩
  | cons c cs ih =>
    obtain ⟨h1, h2⟩ := refines_process Pmin Pmax dist cfg dim pick hp h c
    obtain ⟨h3, h4⟩ := ih h1
    exact ⟨h3, by show _ :: _ = _ :: _; rw [h2, h4]⟩

/-- installing a snapshot (`Save` + `Load`) keeps the refinement: the counters are recomputed
from the loaded items, which is what `Load` does after the D4 repair -/
theorem refines_reload {p : PState} {sp : Spec} (h : Refines dim p sp) :
    Refines dim ⟨p.idx.reload, p.len, p.bytes⟩ sp :=
  ⟨h.inv.of_frame (reload_frame _), h.alloc.of_frame (reload_frame _), fun i => by rw [absI_reload]; exact h.abs i,
    h.ids, h.nodup, h.len, h.bytes⟩

end
end Anndb
