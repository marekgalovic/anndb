import Anndb.Proofs.HnswSearch
/-!
# Completeness of `searchLevel` when the beam covers the collection (C07)

If every allocated vertex fits the beam (`s.next ≤ ef`) the beam search never discards anything and
never stops early: it returns exactly the set of vertices reachable from the start vertex through
non-tombstoned links of the level — one item per vertex, with its distance.
-/
namespace Anndb

section
variable {Pmin Pmax : PQImpl} {dist : VecRef → VecRef → Score}
variable (hmin : Lawful Pmin minBetter) (hmax : Lawful Pmax maxBetter)
variable (s : Index) (q : VecRef) (ef level : Nat) (ep : Vid)

/-- the loop invariant under the covering assumption -/
structure Full (dist : VecRef → VecRef → Score) (s : Index) (q : VecRef) (level : Nat) (ep : Vid)
    (ex : Option Vid) (st : SearchSt Pmin Pmax) : Prop where
  good : Good dist s q ep (fun v => v < s.next) st
  visNodup : st.vis.Nodup
  visLt : ∀ v ∈ st.vis, v < s.next
  rAll : ∀ v ∈ st.vis, ∃ it ∈ Pmax.toList st.r, it.vid = v
  rLen : Pmax.len st.r = st.vis.length
  /-- every visited vertex is still queued, or fully expanded — except `ex`, the one being expanded -/
  closed : ∀ v ∈ st.vis, ex = some v ∨ (∃ it ∈ Pmin.toList st.c, it.vid = v) ∨
      (∀ w ∈ s.nbrs v level, s.isDeleted w = false → w ∈ st.vis)

/-- how one visit (or a fold of visits) moves the state -/
structure Moves (s : Index) (st st' : SearchSt Pmin Pmax) : Prop where
  visMono : ∀ v ∈ st.vis, v ∈ st'.vis
  /-- the measure `|c| + (next − |vis|)` of `searchLoop_complete` is unchanged by visits -/
  mu : Pmin.len st'.c + (s.next - st'.vis.length) = Pmin.len st.c + (s.next - st.vis.length)

theorem Moves.refl (st : SearchSt Pmin Pmax) : Moves s st st := ⟨fun _ h => h, rfl⟩

theorem Moves.trans {a b c : SearchSt Pmin Pmax} (h1 : Moves s a b) (h2 : Moves s b c) : Moves s a c :=
  ⟨fun v h => h2.visMono v (h1.visMono v h), h2.mu.trans h1.mu⟩

theorem visitNbr_skip (lb : Score) (st : SearchSt Pmin Pmax) (n : Vid)
    (h : s.isDeleted n = true ∨ n ∈ st.vis) : visitNbr Pmin Pmax dist s q ef lb st n = st := by
  unfold visitNbr
  by_cases hd : s.isDeleted n = true
  · rw [if_pos hd]
  · rw [if_neg hd, if_pos (h.resolve_left hd)]

include hmax in
theorem visitNbr_room (lb : Score) (st : SearchSt Pmin Pmax) (n : Vid)
    (hd : s.isDeleted n = false) (hv : n ∉ st.vis) (hroom : Pmax.len st.r < ef) :
    visitNbr Pmin Pmax dist s q ef lb st n =
      ⟨Pmin.push st.c ⟨dist q (s.vecOf n), n⟩, Pmax.push st.r ⟨dist q (s.vecOf n), n⟩, n :: st.vis⟩ := by
  have hlen : Pmax.len (Pmax.push st.r ⟨dist q (s.vecOf n), n⟩) = Pmax.len st.r + 1 :=
    (hmax.push_perm st.r _).length_eq
  unfold visitNbr
  rw [if_neg (by rw [hd]; exact Bool.false_ne_true), if_neg hv, if_pos (Or.inr hroom)]
  simp only
  rw [if_neg (Nat.not_lt.mpr (hlen ▸ hroom))]

theorem visit_measure {a v n : Nat} (h : v < n) : a + 1 + (n - (v + 1)) = a + (n - v) := by
  rw [Nat.add_right_comm, Nat.add_assoc, ← Nat.sub_add_comm h, Nat.add_sub_add_right]

include hmin hmax in
theorem full_visit (ex : Option Vid) (hcap : s.next ≤ ef) (lb : Score) (st : SearchSt Pmin Pmax) (n : Vid)
    (hn : s.isDeleted n = false → n < s.next) (h : Full dist s q level ep ex st) :
    Full dist s q level ep ex (visitNbr Pmin Pmax dist s q ef lb st n) ∧
    Moves s st (visitNbr Pmin Pmax dist s q ef lb st n) ∧
    (s.isDeleted n = false → n ∈ (visitNbr Pmin Pmax dist s q ef lb st n).vis) := by
  have hgood := good_visit hmin hmax s q ef ep (fun v => v < s.next) lb st n hn h.good
  by_cases hs : s.isDeleted n = true ∨ n ∈ st.vis
  · rw [visitNbr_skip s q ef lb st n hs]
    exact ⟨h, Moves.refl s st, fun hd => hs.resolve_left (by rw [hd]; exact Bool.false_ne_true)⟩
  · have hd : s.isDeleted n = false := Bool.eq_false_iff.mpr fun hd => hs (Or.inl hd)
    have hv : n ∉ st.vis := fun hv => hs (Or.inr hv)
    have hnd : (n :: st.vis).Nodup := List.nodup_cons.mpr ⟨hv, h.visNodup⟩
    have hlt : ∀ x ∈ n :: st.vis, x < s.next := fun x hx =>
      (List.mem_cons.mp hx).elim (· ▸ hn hd) (h.visLt x)
    -- the visited vertices are distinct and allocated, so the beam (`next ≤ ef`) has room
    have hlen := hnd.length_le_of_subset fun x hx => List.mem_range.mpr (hlt x hx)
    rw [List.length_cons, List.length_range] at hlen
    rw [visitNbr_room hmax s q ef lb st n hd hv (h.rLen ▸ Nat.lt_of_lt_of_le hlen hcap)] at hgood ⊢
    have permR := hmax.push_perm st.r ⟨dist q (s.vecOf n), n⟩
    have permC := hmin.push_perm st.c ⟨dist q (s.vecOf n), n⟩
    refine ⟨⟨hgood, hnd, hlt, fun v hvm => ?_, ?_, fun v hvm => ?_⟩,
      ⟨fun v => List.mem_cons_of_mem _, ?_⟩, fun _ => List.mem_cons_self⟩
    · rcases List.mem_cons.mp hvm with rfl | hvm
      · exact ⟨_, permR.mem_iff.mpr List.mem_cons_self, rfl⟩
      · obtain ⟨it, hit, hvid⟩ := h.rAll v hvm
        exact ⟨it, permR.mem_iff.mpr (List.mem_cons_of_mem _ hit), hvid⟩
    · show (Pmax.toList _).length = _
      rw [permR.length_eq, List.length_cons, List.length_cons]
      exact congrArg (· + 1) h.rLen
    · rcases List.mem_cons.mp hvm with rfl | hvm
      · exact Or.inr (Or.inl ⟨_, permC.mem_iff.mpr List.mem_cons_self, rfl⟩)
      · rcases h.closed v hvm with hex | ⟨it, hit, hvid⟩ | hexp
        · exact Or.inl hex
        · exact Or.inr (Or.inl ⟨it, permC.mem_iff.mpr (List.mem_cons_of_mem _ hit), hvid⟩)
        · exact Or.inr (Or.inr (fun w hw hdw => List.mem_cons_of_mem _ (hexp w hw hdw)))
    · exact (congrArg (· + _) permC.length_eq).trans (visit_measure hlen)

include hmin hmax in
theorem full_fold (ex : Option Vid) (hcap : s.next ≤ ef) (lb : Score) (ns : List Vid) (st : SearchSt Pmin Pmax)
    (hn : ∀ n ∈ ns, s.isDeleted n = false → n < s.next)
    (h : Full dist s q level ep ex st) :
    Full dist s q level ep ex (ns.foldl (visitNbr Pmin Pmax dist s q ef lb) st) ∧
    Moves s st (ns.foldl (visitNbr Pmin Pmax dist s q ef lb) st) ∧
    (∀ n ∈ ns, s.isDeleted n = false → n ∈ (ns.foldl (visitNbr Pmin Pmax dist s q ef lb) st).vis) := by
  induction ns generalizing st with
  | nil => exact ⟨h, Moves.refl s st, by intro n hn; cases hn⟩
  | cons a t ih =>
    simp only [List.foldl_cons]
    obtain ⟨f1, m1, v1⟩ := full_visit hmin hmax s q ef level ep ex hcap lb st a (hn a List.mem_cons_self) h
    obtain ⟨f2, m2, v2⟩ := ih _ (fun m hm => hn m (List.mem_cons_of_mem _ hm)) f1
    refine ⟨f2, m1.trans s m2, ?_⟩
    intro m hm hdm
    rcases List.mem_cons.mp hm with rfl | hm
    · exact m2.visMono _ (v1 hdm)
    · exact v2 m hm hdm

/-- what the completed search looks like -/
structure Complete (dist : VecRef → VecRef → Score) (s : Index) (q : VecRef) (level : Nat) (ep : Vid)
    (l : List Item) : Prop where
  res : ResOK dist s q ep (fun v => v < s.next) l
  start : ∃ it ∈ l, it.vid = ep
  closed : ∀ it ∈ l, ∀ w ∈ s.nbrs it.vid level, s.isDeleted w = false → ∃ it' ∈ l, it'.vid = w

include hmin hmax in
/-- the loop does not stop early: the candidate taken off the queue is also a result (nothing was
ever evicted), so it is no farther than the farthest result -/
theorem Full.no_stop {ex : Option Vid} {st : SearchSt Pmin Pmax} {ci : Item} {c' : Pmin.Q}
    (h : Full dist s q level ep ex st) (hp : Pmin.pop st.c = some (ci, c')) :
    ∃ lb, peekScore Pmax st.r = some lb ∧ ci.score ≤ lb := by
  have hci := h.good.cOK ci ((hmin.pop_some _ _ _ hp).1.mem_iff.mpr List.mem_cons_self)
  obtain ⟨itr, hitr, hitrv⟩ := h.rAll ci.vid hci.1
  obtain ⟨x, r', hpr⟩ := hmax.pop_progress st.r (List.ne_nil_of_mem hitr)
  refine ⟨x.score, by simp [peekScore, hpr], ?_⟩
  have hx : itr.score ≤ x.score := (hmax.pop_some _ _ _ hpr).2 itr hitr
  rwa [(h.good.rOK itr hitr).2.1, hitrv, ← hci.2.1] at hx

include hmin hmax in
theorem Full.expand (hcap : s.next ≤ ef)
    (hcl : ∀ u w, u < s.next → w ∈ s.nbrs u level → s.isDeleted w = false → w < s.next)
    {st : SearchSt Pmin Pmax} {ci : Item} {c' : Pmin.Q} (lb : Score)
    (h : Full dist s q level ep none st) (hp : Pmin.pop st.c = some (ci, c')) :
    Full dist s q level ep none
      ((s.nbrs ci.vid level).foldl (visitNbr Pmin Pmax dist s q ef lb) ⟨c', st.r, st.vis⟩) ∧
    Moves s ⟨c', st.r, st.vis⟩ ((s.nbrs ci.vid level).foldl (visitNbr Pmin Pmax dist s q ef lb) ⟨c', st.r, st.vis⟩) := by
  have hpop := (hmin.pop_some _ _ _ hp).1
  have hci := h.good.cOK ci (hpop.mem_iff.mpr List.mem_cons_self)
  -- `ci.vid` is exempt while it is being expanded
  have h1 : Full dist s q level ep (some ci.vid) ⟨c', st.r, st.vis⟩ := by
    refine ⟨⟨fun it hit => h.good.cOK it (hpop.mem_iff.mpr (List.mem_cons_of_mem _ hit)), h.good.rOK, h.good.rNodup⟩,
      h.visNodup, h.visLt, h.rAll, h.rLen, fun v hv => ?_⟩
    rcases h.closed v hv with hex | ⟨it, hit, hvid⟩ | hexp
    · cases hex
    · rcases List.mem_cons.mp (hpop.mem_iff.mp hit) with rfl | hit'
      · exact Or.inl (by rw [hvid])
      · exact Or.inr (Or.inl ⟨it, hit', hvid⟩)
    · exact Or.inr (Or.inr hexp)
  obtain ⟨f2, m2, v2⟩ := full_fold hmin hmax s q ef level ep (some ci.vid) hcap lb (s.nbrs ci.vid level)
    ⟨c', st.r, st.vis⟩ (fun n hn hdn => hcl ci.vid n hci.2.2.2 hn hdn) h1
  refine ⟨⟨f2.good, f2.visNodup, f2.visLt, f2.rAll, f2.rLen, fun v hv => ?_⟩, m2⟩
  rcases f2.closed v hv with hex | hq | hexp
  · cases hex
    exact Or.inr (Or.inr v2)
  · exact Or.inr (Or.inl hq)
  · exact Or.inr (Or.inr hexp)

include hmin hmax in
theorem searchLoop_complete (hcap : s.next ≤ ef)
    (hcl : ∀ u w, u < s.next → w ∈ s.nbrs u level → s.isDeleted w = false → w < s.next)
    (fuel : Nat) (st : SearchSt Pmin Pmax)
    (h : Full dist s q level ep none st) (hep : ep ∈ st.vis)
    (hfuel : Pmin.len st.c + (s.next - st.vis.length) < fuel) :
    Complete dist s q level ep (Pmax.toList (searchLoop Pmin Pmax dist s q ef level fuel st)) := by
  induction fuel generalizing st with
  | zero => exact absurd hfuel (Nat.not_lt_zero _)
  | succ f ih =>
    unfold searchLoop
    cases hp : Pmin.pop st.c with
    | none =>
      have hc : Pmin.toList st.c = [] := hmin.pop_none _ hp
      refine ⟨resOK_of_good s q ep _ st h.good, h.rAll ep hep, fun it hit w hw hdw => ?_⟩
      rcases h.closed it.vid (h.good.rOK it hit).1 with hex | ⟨x, hx, _⟩ | hexp
      · cases hex
      · rw [hc] at hx; cases hx
      · exact h.rAll w (hexp w hw hdw)
    | some pr =>
      obtain ⟨ci, c'⟩ := pr
      obtain ⟨lb, hpeek, hle⟩ := h.no_stop hmin hmax s q level ep hp
      obtain ⟨f2, m2⟩ := h.expand hmin hmax s q ef level ep hcap hcl lb hp
      simp only [hpeek, if_neg (Nat.not_lt.mpr hle)]
      refine ih _ f2 (m2.visMono ep hep) ?_
      -- the measure `|c| + (next - |vis|)`: the visits leave it where it was, taking `ci` off lowered it by one
      rw [m2.mu]
      rw [hmin.len_pop hp, Nat.add_right_comm] at hfuel
      exact Nat.lt_of_succ_lt_succ hfuel

include hmin hmax in
/-- **C07: `searchLevel` is complete when the beam covers the collection** (`next ≤ ef`): nothing is
discarded and the loop cannot stop early, by a fuel/measure argument (`searchLoop_complete`). -/
theorem searchLevel_complete (hcap : s.next ≤ ef) (hep : ep < s.next)
    (hcl : ∀ u w, u < s.next → w ∈ s.nbrs u level → s.isDeleted w = false → w < s.next) :
    Complete dist s q level ep (Pmax.toList (searchLevel Pmin Pmax dist s q ep ef level)) := by
  unfold searchLevel
  have pc := hmin.push_empty ⟨dist q (s.vecOf ep), ep⟩
  have pr := hmax.push_empty ⟨dist q (s.vecOf ep), ep⟩
  have hv : ∀ v ∈ [ep], v = ep := fun v hv => List.mem_singleton.mp hv
  apply searchLoop_complete hmin hmax s q ef level ep hcap hcl
  · refine ⟨good_init hmin hmax s q ep _ hep, List.pairwise_singleton _ _, fun v h => hv v h ▸ hep,
      fun v h => ⟨_, pr.mem_iff.mpr List.mem_cons_self, (hv v h).symm⟩, pr.length_eq,
      fun v h => Or.inr (Or.inl ⟨_, pc.mem_iff.mpr List.mem_cons_self, (hv v h).symm⟩)⟩
  · exact List.mem_singleton.mpr rfl
  · rw [show Pmin.len _ = 1 from pc.length_eq]
    show 1 + (s.next - 1) < s.next + 1
    rw [Nat.add_sub_of_le (Nat.zero_lt_of_lt hep)]
    exact Nat.lt_succ_self _

end
end Anndb
