/-!
# Quorum intersection (C03, the replicated clause; C05, election safety)

Replicas are numbered `0 … n-1`. An acknowledgement needs the entry in the log store of a majority
`A` (followers acknowledge an append only after `wal.Save`: C05 `run_attests`; the leader's own
store: C03 `acked_durable`). A crash and restart keeps every log store. A later leader is elected
by a majority `Q` of voters. `A` and `Q` share a replica — whichever minority was down in between —
so the election (Raft's up-to-date check, etcd/raft's part) meets a log that holds the entry.

The second half of the file is C05's: two small voter models (`Voter`: one vote; `VoterT`: one vote
per term) in which a replica that saves before it answers grants at most one vote, hence — by the
same intersection — at most one leader. -/
namespace Anndb.Quorum

def Majority (n : Nat) (s : List Nat) : Prop := s.Nodup ∧ (∀ r ∈ s, r < n) ∧ n < 2 * s.length

theorem quorum_intersection (n : Nat) (A Q : List Nat) (hA : Majority n A) (hQ : Majority n Q) :
    ∃ r, r ∈ A ∧ r ∈ Q := by
  -- pigeonhole: disjoint `A`, `Q` would be `|A| + |Q| > n` distinct numbers below `n`
  apply Decidable.byContradiction
  intro hno
  have hnd : (A ++ Q).Nodup :=
    List.nodup_append.mpr ⟨hA.1, hQ.1, fun a ha b hb hab => hno ⟨a, ha, hab ▸ hb⟩⟩
  have hle := hnd.length_le_of_subset (l₂ := List.range n) fun r hr =>
    List.mem_range.mpr ((List.mem_append.mp hr).elim (hA.2.1 r) (hQ.2.1 r))
  have := hA.2.2
  have := hQ.2.2
  simp only [List.length_append, List.length_range] at hle
  omega

/-- the replicas whose store holds `e` -/
def holders (stores : List (List Nat)) (e : Nat) : List Nat :=
  (List.range stores.length).filter (fun r => decide (e ∈ stores.getD r []))

/-- **C03 (any minority crashes).** `stores r` is the durable log of replica `r`; the crashes and
restarts between acknowledgement and election change no store, so one `stores` serves both. -/
theorem acked_entry_meets_every_election (stores : List (List Nat)) (e : Nat)
    (hack : stores.length < 2 * (holders stores e).length)
    (Q : List Nat) (hQ : Majority stores.length Q) :
    ∃ r, r ∈ Q ∧ e ∈ stores.getD r [] := by
  have hA : Majority stores.length (holders stores e) := by
    refine ⟨List.nodup_range.filter _, ?_, hack⟩
    intro r hr
    exact List.mem_range.mp (List.mem_filter.mp hr).1
  obtain ⟨r, hrA, hrQ⟩ := quorum_intersection stores.length _ Q hA hQ
  exact ⟨r, hrQ, by simpa using (List.mem_filter.mp hrA).2⟩

example : Majority 3 [0, 2] := ⟨by decide, by decide, by decide⟩
example : holders [[1, 2, 3], [1], [1, 2, 3]] 3 = [0, 2] := by decide

/-! ## Election safety from durable votes (C05)

One replica in one term. `mem` is the vote etcd/raft holds in memory, `durable` the vote in the
host's log store, `sent` the candidates this replica has granted its vote to (messages that left).
With `save = true` the host stores the hard state before the message leaves (the order `run_attests`
proves for the code); with `save = false` the message leaves first and a crash can fall in between.
A restart resumes from the store (`restart_resumes_from_store`). -/

structure Voter where
  durable : Option Nat
  mem : Option Nat
  sent : List Nat
deriving DecidableEq, Repr

inductive VEv where
  | request (c : Nat)   -- a vote request from candidate `c` arrives
  | restart             -- crash and restart
deriving DecidableEq, Repr

def Voter.init : Voter := ⟨none, none, []⟩

def Voter.step (save : Bool) (v : Voter) : VEv → Voter
  | .request c =>
    match v.mem with
    | some x => if x = c then { v with sent := c :: v.sent } else v
    | none => { durable := if save then some c else v.durable, mem := some c, sent := c :: v.sent }
  | .restart => { v with mem := v.durable }

def Voter.run (save : Bool) (v : Voter) (evs : List VEv) : Voter := evs.foldl (Voter.step save) v

def Voter.Inv (v : Voter) : Prop := v.durable = v.mem ∧ ∀ a ∈ v.sent, v.mem = some a

theorem Voter.inv_step (v : Voter) (e : VEv) (h : v.Inv) : (v.step true e).Inv := by
  obtain ⟨h1, h2⟩ := h
  -- a request from the candidate already voted for, from another one, the first request; a restart
  fun_cases Voter.step true v e
  case case1 c hm => exact ⟨h1, List.forall_mem_cons.mpr ⟨hm, h2⟩⟩
  case case2 => exact ⟨h1, h2⟩
  case case3 c hm => exact ⟨rfl, List.forall_mem_cons.mpr ⟨rfl, fun a ha => nomatch hm ▸ h2 a ha⟩⟩
  case case4 => exact ⟨rfl, fun a ha => h1.trans (h2 a ha)⟩

theorem Voter.inv_run (v : Voter) (evs : List VEv) (h : v.Inv) : (v.run true evs).Inv :=
  List.foldlRecOn evs _ h fun v hv e _ => v.inv_step e hv

theorem Voter.vote_once (evs : List VEv) (a b : Nat)
    (ha : a ∈ (Voter.init.run true evs).sent) (hb : b ∈ (Voter.init.run true evs).sent) : a = b := by
  have h := Voter.inv_run Voter.init evs ⟨rfl, nofun⟩
  exact Option.some.inj ((h.2 a ha).symm.trans (h.2 b hb))

/-- the other order: the grant leaves before the vote is stored, a crash falls in between, and the
replica grants a second candidate in the same term (two leaders: C05 `grant_before_save_elects_two`) -/
theorem send_before_save_votes_twice :
    (Voter.init.run false [.request 1, .restart, .request 2]).sent = [2, 1] := by decide

example : (Voter.init.run true [.request 1, .restart, .request 2, .request 1]).sent = [1, 1] := by decide

/-! ## the same through every term

A replica with a current term: a request of an older term is ignored, a request of a newer term
makes the replica adopt that term (forgetting its vote), and then the vote is granted if it is
still free or already given to the same candidate. Term and vote are stored together (the hard
state) before anything leaves when `save = true`. -/

structure VoterT where
  dTerm : Nat
  dVote : Option Nat
  mTerm : Nat
  mVote : Option Nat
  sent : List (Nat × Nat)      -- (term, candidate) of every grant that left
deriving DecidableEq, Repr

inductive VEvT where
  | request (t c : Nat)
  | restart
deriving DecidableEq, Repr

def VoterT.init : VoterT := ⟨0, none, 0, none, []⟩

def VoterT.step (save : Bool) (v : VoterT) : VEvT → VoterT
  | .restart => { v with mTerm := v.dTerm, mVote := v.dVote }
  | .request t c =>
    if t < v.mTerm then v else
    let vote := if t > v.mTerm then none else v.mVote
    match vote with
    | some x =>
      if x = c then { dTerm := if save then t else v.dTerm, dVote := if save then some x else v.dVote,
                      mTerm := t, mVote := some x, sent := (t, c) :: v.sent }
      else { dTerm := if save then t else v.dTerm, dVote := if save then some x else v.dVote,
             mTerm := t, mVote := some x, sent := v.sent }
    | none => { dTerm := if save then t else v.dTerm, dVote := if save then some c else v.dVote,
                mTerm := t, mVote := some c, sent := (t, c) :: v.sent }

def VoterT.run (save : Bool) (v : VoterT) (evs : List VEvT) : VoterT := evs.foldl (VoterT.step save) v

structure VoterT.Inv (v : VoterT) : Prop where
  dur : v.dTerm = v.mTerm ∧ v.dVote = v.mVote
  le : ∀ p ∈ v.sent, p.1 ≤ v.mTerm
  cur : ∀ p ∈ v.sent, p.1 = v.mTerm → v.mVote = some p.2
  once : ∀ p ∈ v.sent, ∀ q ∈ v.sent, p.1 = q.1 → p.2 = q.2

/-- `w` is the vote the replica ends up holding; the grant leaves iff `w = c` -/
theorem VoterT.step_request (v : VoterT) (t c : Nat) (h : ¬ t < v.mTerm) :
    ∃ w, w = (if t > v.mTerm then none else v.mVote).getD c ∧
      v.step true (.request t c) = ⟨t, some w, t, some w, if w = c then (t, c) :: v.sent else v.sent⟩ := by
  refine ⟨_, rfl, ?_⟩
  rw [VoterT.step, if_neg h]
  cases (if t > v.mTerm then none else v.mVote) with
  | none => simp only [Option.getD_none, if_true]
  | some x => by_cases hx : x = c <;> simp only [hx, Option.getD_some, if_true, if_false]

theorem VoterT.inv_step (v : VoterT) (e : VEvT) (h : v.Inv) : (v.step true e).Inv := by
  cases e with
  | restart =>
    have : v.step true .restart = v := by
      obtain ⟨⟨h1, h2⟩⟩ := h
      cases v; cases h1; cases h2; rfl
    rwa [this]
  | request t c =>
    by_cases hold : t < v.mTerm
    · rwa [VoterT.step, if_pos hold]
    have hmt : v.mTerm ≤ t := Nat.le_of_not_lt hold
    obtain ⟨w, hw, hstep⟩ := v.step_request t c hold
    obtain ⟨_, hle, hcur, honce⟩ := h
    rw [hstep]
    -- a grant that has left by now is of a term `≤ t`; of term `t`, it went to `w`; of another term, it had left before
    have hsent : ∀ p ∈ (if w = c then (t, c) :: v.sent else v.sent),
        p.1 ≤ t ∧ (p.1 = t → w = p.2) ∧ (p.1 ≠ t → p ∈ v.sent) := by
      have hold' : ∀ p ∈ v.sent, p.1 ≤ t ∧ (p.1 = t → w = p.2) ∧ (p.1 ≠ t → p ∈ v.sent) := by
        intro p hp
        have hpm := hle p hp
        refine ⟨Nat.le_trans hpm hmt, fun hpt => ?_, fun _ => hp⟩
        have hm : p.1 = v.mTerm := Nat.le_antisymm hpm (hpt ▸ hmt)
        rw [hw, if_neg (Nat.not_lt.mpr (hpt ▸ hpm)), hcur p hp hm, Option.getD_some]
      split
      · next hwc => exact List.forall_mem_cons.mpr ⟨⟨Nat.le_refl _, fun _ => hwc, fun h => absurd rfl h⟩, hold'⟩
      · exact hold'
    refine ⟨⟨rfl, rfl⟩, fun p hp => (hsent p hp).1, fun p hp hpt => congrArg some ((hsent p hp).2.1 hpt), ?_⟩
    intro p hp q hq hpq
    by_cases ht : p.1 = t
    · exact ((hsent p hp).2.1 ht).symm.trans ((hsent q hq).2.1 (hpq ▸ ht))
    · exact honce p ((hsent p hp).2.2 ht) q ((hsent q hq).2.2 (hpq ▸ ht)) hpq

theorem VoterT.inv_run (v : VoterT) (evs : List VEvT) (h : v.Inv) : (v.run true evs).Inv :=
  List.foldlRecOn evs _ h fun v hv e _ => v.inv_step e hv

theorem VoterT.inv_init : VoterT.init.Inv := ⟨⟨rfl, rfl⟩, nofun, nofun, nofun⟩

theorem VoterT.vote_once (evs : List VEvT) (t a b : Nat)
    (ha : (t, a) ∈ (VoterT.init.run true evs).sent) (hb : (t, b) ∈ (VoterT.init.run true evs).sent) : a = b :=
  (VoterT.inv_run VoterT.init evs VoterT.inv_init).once (t, a) ha (t, b) hb rfl

/-- a vote within an already adopted term that is not stored (seeded change C05-C): the replica
adopts term 7 on a request it has to refuse... here: grants 3 in term 7 without storing, restarts,
grants 2 in term 7 -/
theorem unsaved_vote_in_adopted_term_votes_twice :
    (VoterT.init.run false [.request 7 3, .restart, .request 7 2]).sent = [(7, 2), (7, 3)] := by decide

example : (VoterT.init.run true [.request 7 3, .restart, .request 7 2, .request 8 2, .request 7 3]).sent
    = [(8, 2), (7, 3)] := by decide

end Anndb.Quorum
