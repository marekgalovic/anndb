import Anndb.Proofs.WalFlush
/-!
# C06: refinement along histories

Three runs of the specification, each with the legality of a call decided on the specification
state: `runM` (every batch starts at or after the first index), `runMA` (a batch only has to leave
no gap above the log: `MemoryStorage.Append` drops what has been compacted away meanwhile, and
`badgerWAL.writeEntries` copies that), `runMX` (also a `Save` that carries a received snapshot
together with the entries that follow it). `runM` accepts no more than `runMA` (`runMA_of_runM`)
and `runMX` steps through `runMA` on the operations they share, so one induction per store run
(`runW`, `runWX`) carries all three.
-/
namespace Anndb.Wal

/-- the write operations of a history: a batch of entries with a hard state (`Save` without a
received snapshot), a local snapshot + compaction (`CreateSnapshot`), a reopen of the database -/
inductive WOp where
  | append (hs : HardState) (es : List Entry)
  | compact (idx conf data : Nat)
  | install (hs : HardState) (s : Snap)
  | reopen

/-- the specification's run, with the legality of each call decided on the specification state:
a batch is a non-empty consecutive run that starts at or after the first index and leaves no gap;
a compaction index lies inside the log beyond the snapshot -/
def runM : Mem → List WOp → Option Mem
  | m, [] => some m
  | m, .append hs es :: rest =>
    match es with
    | [] => none
    | e0 :: _ =>
      if m.firstIndex ≤ e0.index ∧ e0.index ≤ m.lastIndex + 1 then
        runM { m.append es with hs := if hs.isEmpty then m.hs else hs } rest
      else none
  | m, .compact idx conf data :: rest =>
    if m.firstIndex ≤ idx ∧ idx ≤ m.lastIndex then
      match m.createSnapshot idx conf data with
      | .ok m1 => match m1.compact idx with
        | .ok m2 => runM m2 rest
        | .error _ => none
      | .error _ => none
    else none
  | m, .install hs s :: rest =>
    if m.snap.index < s.index then
      match m.applySnapshot s with
      | .ok m1 => runM { m1 with hs := if hs.isEmpty then m.hs else hs } rest
      | .error _ => none
    else none
  | m, .reopen :: rest => runM m rest

def runW : Wal → List WOp → Option Wal
  | w, [] => some w
  | w, .append hs es :: rest =>
    match w.save hs es emptySnap with
    | .ok w' => runW w' rest
    | .error _ => none
  | w, .compact idx conf data :: rest =>
    match w.createSnapshot idx (some conf) data with
    | .ok w' => runW w' rest
    | .error _ => none
  | w, .install hs s :: rest =>
    match w.save hs [] s with
    | .ok w' => runW w' rest
    | .error _ => none
  | w, .reopen :: rest => runW (Wal.open_ w.disk) rest

def runMA : Mem → List WOp → Option Mem
  | m, [] => some m
  | m, .append hs es :: rest =>
    match es with
    | [] => none
    | e0 :: _ =>
      if e0.index ≤ m.lastIndex + 1 then
        runMA { m.append es with hs := if hs.isEmpty then m.hs else hs } rest
      else none
  | m, .compact idx conf data :: rest =>
    if m.firstIndex ≤ idx ∧ idx ≤ m.lastIndex then
      match m.createSnapshot idx conf data with
      | .ok m1 => match m1.compact idx with
        | .ok m2 => runMA m2 rest
        | .error _ => none
      | .error _ => none
    else none
  | m, .install hs s :: rest =>
    if m.snap.index < s.index then
      match m.applySnapshot s with
      | .ok m1 => runMA { m1 with hs := if hs.isEmpty then m.hs else hs } rest
      | .error _ => none
    else none
  | m, .reopen :: rest => runMA m rest

/-- `runMA` has the equations of `runM` with one condition on a batch dropped -/
theorem runMA_of_runM (ops : List WOp) (m m' : Mem) (hm : runM m ops = some m') : runMA m ops = some m' := by
  fun_induction runM m ops <;> simp_all [runMA]

theorem run_refines_any_start (ops : List WOp) (w : Wal) (m m' : Mem) (h : WF w) (ha : abs w = m)
    (hes : ∀ hs es, WOp.append hs es ∈ ops → Contig es) (hm : runMA m ops = some m') :
    ∃ w', runW w ops = some w' ∧ WF w' ∧ abs w' = m' := by
  fun_induction runMA m ops generalizing w
  case case1 => exact ⟨w, rfl, h, ha.trans (Option.some.inj hm)⟩
  case case3 hs rest e0 t hleg ih =>  -- a batch of entries
    subst ha
    obtain ⟨w1, hs1, hwf1, habs1⟩ := save_entries_refines w h hs (e0 :: t) (hes hs _ List.mem_cons_self)
      fun _ he => by cases he; exact hleg
    obtain ⟨w2, hr, r⟩ := ih w1 hwf1 habs1 (fun hs es hmem => hes hs es (.tail _ hmem)) hm
    exact ⟨w2, by simp only [runW, hs1]; exact hr, r⟩
  case case5 idx conf data rest hleg m1 hm1 m2 hm2 ih =>  -- a local snapshot with compaction
    subst ha
    obtain ⟨w1, m1', m2', hc, hwf1, hm1', hm2', habs1⟩ := createSnapshot_refines w h idx conf data hleg.1 hleg.2
    cases hm1.symm.trans hm1'
    cases hm2.symm.trans hm2'
    obtain ⟨w2, hr, r⟩ := ih w1 hwf1 habs1 (fun hs es hmem => hes hs es (.tail _ hmem)) hm
    exact ⟨w2, by simp only [runW, hc]; exact hr, r⟩
  case case9 hs s rest hleg m1 hm1 ih =>  -- a received snapshot
    subst ha
    obtain ⟨w1, m1', hs1, hwf1, hm1', habs1⟩ := save_snapshot_refines w hs s hleg
    cases hm1.symm.trans hm1'
    obtain ⟨w2, hr, r⟩ := ih w1 hwf1 habs1 (fun hs es hmem => hes hs es (.tail _ hmem)) hm
    exact ⟨w2, by simp only [runW, hs1]; exact hr, r⟩
  case case12 rest ih =>  -- a reopen
    subst ha
    obtain ⟨hwf1, habs1⟩ := reopen_refines w h
    exact ih _ hwf1 habs1 (fun hs es hmem => hes hs es (.tail _ hmem)) hm
  -- what is left are the calls the specification refuses
  all_goals cases hm

theorem run_refines (ops : List WOp) (w : Wal) (m m' : Mem) (h : WF w) (ha : abs w = m)
    (hes : ∀ hs es, WOp.append hs es ∈ ops → Contig es) (hm : runM m ops = some m') :
    ∃ w', runW w ops = some w' ∧ WF w' ∧ abs w' = m' :=
  run_refines_any_start ops w m m' h ha hes (runMA_of_runM ops m m' hm)

/-! ## histories with combined saves -/

inductive WOpX where
  | base (op : WOp)
  /-- a `Ready` carrying a received snapshot and the entries that follow it -/
  | installWith (hs : HardState) (s : Snap) (es : List Entry)

def runMX : Mem → List WOpX → Option Mem
  | m, [] => some m
  | m, .base op :: rest => (runMA m [op]).bind fun m1 => runMX m1 rest
  | m, .installWith hs s es :: rest =>
    match es with
    | [] => none
    | e0 :: _ =>
      if m.snap.index < s.index ∧ e0.index = s.index + 1 then
        match m.applySnapshot s with
        | .ok m1 => runMX { m1.append es with hs := if hs.isEmpty then m.hs else hs } rest
        | .error _ => none
      else none

def runWX : Wal → List WOpX → Option Wal
  | w, [] => some w
  | w, .base op :: rest => (runW w [op]).bind fun w1 => runWX w1 rest
  | w, .installWith hs s es :: rest =>
    match w.save hs es s with
    | .ok w' => runWX w' rest
    | .error _ => none

def WOpX.batch : WOpX → List Entry
  | .base (.append _ es) => es
  | .installWith _ _ es => es
  | _ => []

theorem run_refines_x (ops : List WOpX) (w : Wal) (m m' : Mem) (h : WF w) (ha : abs w = m)
    (hes : ∀ op ∈ ops, Contig op.batch) (hm : runMX m ops = some m') :
    ∃ w', runWX w ops = some w' ∧ WF w' ∧ abs w' = m' := by
  fun_induction runMX m ops generalizing w
  case case1 => exact ⟨w, rfl, h, ha.trans (Option.some.inj hm)⟩
  case case2 m op rest ih =>  -- an operation of `WOp`
    obtain ⟨m1, h1, hm⟩ := Option.bind_eq_some_iff.mp hm
    obtain ⟨w1, hr1, hwf1, habs1⟩ := run_refines_any_start [op] w m m1 h ha
      (fun hs es hmem => by cases List.mem_singleton.mp hmem; exact hes (.base _) List.mem_cons_self) h1
    obtain ⟨w2, hr2, r⟩ := ih m1 w1 hwf1 habs1 (fun o ho => hes o (.tail _ ho)) hm
    exact ⟨w2, by simp only [runWX, hr1]; exact hr2, r⟩
  case case4 m hs s rest e0 t hleg m1 hm1 ih =>  -- a received snapshot with entries
    subst ha
    obtain ⟨w1, m1', hs1, hwf1, hm1', habs1⟩ := save_both_refines w hs s (e0 :: t) hleg.1
      (hes (.installWith hs s (e0 :: t)) List.mem_cons_self) e0 rfl hleg.2
    cases hm1.symm.trans hm1'
    obtain ⟨w2, hr, r⟩ := ih w1 hwf1 habs1 (fun o ho => hes o (.tail _ ho)) hm
    exact ⟨w2, by simp only [runWX, hs1]; exact hr, r⟩
  -- what is left are the calls the specification refuses
  all_goals cases hm

end Anndb.Wal
