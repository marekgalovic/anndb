import Anndb.Proofs.HnswInv
import Anndb.Model.Partition
/-!
# The effect of `insert` / `remove` / `reload` on the abstraction `absI`

`absI s` is what a partition *means*: the finite map read off the live table. These lemmas say
that the whole linking machinery of HNSW is invisible through `absI`.
-/
namespace Anndb

/-- id ↦ (vector, metadata, level) of the current incarnation -/
def absI (s : Index) (i : ItemId) : Option SItem :=
  (s.live i).bind fun v => (s.verts v).map fun x => ⟨x.vec, x.md, x.level⟩

theorem absI_of_frame {s s' : Index} (h : EdgeFrame s s') : absI s' = absI s := by
  funext i
  unfold absI
  rw [h.live]
  cases s.live i with
  | none => rfl
  | some v =>
    obtain ⟨e, he⟩ := h.verts v
    simp only [Option.bind_some, he]
    cases s.verts v <;> rfl

theorem absI_none_of_live_none {s : Index} {i : ItemId} (h : s.live i = none) : absI s i = none := by
  simp [absI, h]

theorem absI_live {s : Index} (ha : Alloc s) {i : ItemId} {v : Vid} (hl : s.live i = some v) :
    absI s i = some ⟨s.vecOf v, s.mdOf v, s.levelOf v⟩ := by
  obtain ⟨x, hx, _⟩ := ha.liveAlloc i v hl
  simp [absI, hl, hx, Index.vecOf, Index.mdOf, Index.levelOf]

theorem absI_eq_none_iff {s : Index} (ha : Alloc s) (i : ItemId) : absI s i = none ↔ s.live i = none := by
  cases hl : s.live i with
  | none => simp [absI, hl]
  | some v => simp [absI_live ha hl]

theorem Rebind.absI {s s' : Index} {id : ItemId} {v : Vid} {x : Vertex} (r : Rebind s s' id v x) (i : ItemId) :
    absI s' i = if i = id then (if x.deleted then none else some ⟨x.vec, x.md, x.level⟩) else absI s i := by
  unfold Anndb.absI
  rw [r.live]
  split
  · split
    · rfl
    · simp [r.verts]
  · rename_i hi
    cases hl : s.live i with
    | none => rfl
    | some u => simp only [Option.bind_some, r.verts, if_neg (fun e => hi ((r.own i u hl).mpr e))]

section
variable {Pmin Pmax : PQImpl} {dist : VecRef → VecRef → Score} (cfg : Cfg)

variable (Pmin Pmax dist) in
theorem insert_isOk_iff (s : Index) (id : ItemId) (vec : VecRef) (md : Meta) (level : Nat) :
    (∃ s', insert Pmin Pmax dist cfg s id vec md level = .ok s') ↔ s.live id = none := by
  unfold insert
  cases hl : s.live id with
  | some v => simp
  | none =>
    refine ⟨fun _ => rfl, fun _ => ?_⟩
    cases s.entry with
    | none => exact ⟨_, rfl⟩
    | some ep => exact ⟨_, rfl⟩

theorem insert_effect (s : Index) (id : ItemId) (vec : VecRef) (md : Meta) (level : Nat)
    (ha : Alloc s) (s' : Index) (h : insert Pmin Pmax dist cfg s id vec md level = .ok s') :
    s.live id = none ∧
    (∀ i, absI s' i = if i = id then some ⟨vec, md, if s.entry = none then 0 else level⟩ else absI s i) ∧
    s'.ids = id :: s.ids := by
  obtain ⟨hl, e, _, fr⟩ := insert_ok cfg h
  have r := (store_rebind id (newVertex id vec md (if s.entry = none then 0 else level)) ha rfl rfl hl).setEntry e
  exact ⟨hl, fun i => (congrFun (absI_of_frame fr) i).trans (r.absI i), fr.ids⟩

variable (Pmin Pmax dist) in
theorem remove_isOk_iff (s : Index) (id : ItemId) (pick : List ItemId → Option ItemId) :
    (∃ s', remove Pmin Pmax dist cfg s id pick = .ok s') ↔ s.live id ≠ none := by
  unfold remove
  cases hl : s.live id <;> simp

theorem remove_effect (s : Index) (id : ItemId) (pick : List ItemId → Option ItemId)
    (ha : Alloc s) (s' : Index) (h : remove Pmin Pmax dist cfg s id pick = .ok s') :
    (∀ i, absI s' i = if i = id then none else absI s i) ∧
    s'.ids = s.ids.filter (· ≠ id) := by
  obtain ⟨v, hl, fr⟩ := remove_ok cfg h
  obtain ⟨x, hx, hxid⟩ := ha.liveAlloc id v hl
  rw [handEntry_eq] at fr
  have r := (tombstone_rebind ha hl hx hxid).setEntry (handEntry (tombstone s id v) v pick).entry
  exact ⟨fun i => (congrFun (absI_of_frame fr) i).trans (r.absI i), fr.ids⟩

end

theorem absI_reload (s : Index) : absI s.reload = absI s := absI_of_frame (reload_frame s)

end Anndb
