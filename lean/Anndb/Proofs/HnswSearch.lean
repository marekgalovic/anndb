import Anndb.Model.Hnsw
import Anndb.Proofs.PQLemmas
/-!
# Soundness of `searchLevel` over any lawful priority queue

`P` is an arbitrary predicate on vertices that holds for the start vertex and is closed
under following a link of the searched level to a non-tombstoned vertex. Instances used
later: “allocated and of level ≥ l” (totality / I4), “not tombstoned” (soundness, C01), “allocated”
and “not the vertex being inserted” (C07).
-/
namespace Anndb

section
variable {Pmin Pmax : PQImpl} {dist : VecRef → VecRef → Score}
variable (hmin : Lawful Pmin minBetter) (hmax : Lawful Pmax maxBetter)
variable (s : Index) (q : VecRef) (ef level : Nat) (ep : Vid) (P : Vid → Prop)

/-- what is known about every queued item -/
def ItemOK (dist : VecRef → VecRef → Score) (s : Index) (q : VecRef) (ep : Vid) (P : Vid → Prop)
    (vis : List Vid) (it : Item) : Prop :=
  it.vid ∈ vis ∧ it.score = dist q (s.vecOf it.vid) ∧ (it.vid = ep ∨ s.isDeleted it.vid = false) ∧ P it.vid

theorem ItemOK.mono {vis : List Vid} {n : Vid} {it : Item}
    (h : ItemOK dist s q ep P vis it) : ItemOK dist s q ep P (n :: vis) it :=
  ⟨List.mem_cons_of_mem _ h.1, h.2.1, h.2.2.1, h.2.2.2⟩

structure Good (dist : VecRef → VecRef → Score) (s : Index) (q : VecRef) (ep : Vid) (P : Vid → Prop)
    (st : SearchSt Pmin Pmax) : Prop where
  cOK : ∀ it ∈ Pmin.toList st.c, ItemOK dist s q ep P st.vis it
  rOK : ∀ it ∈ Pmax.toList st.r, ItemOK dist s q ep P st.vis it
  rNodup : ((Pmax.toList st.r).map (·.vid)).Nodup

include hmax in
/-- `visitNbr`'s update of the result queue -/
theorem pushBounded (r : Pmax.Q) (it : Item) :
    let r1 := Pmax.push r it
    let r2 := if Pmax.len r1 > ef then match Pmax.pop r1 with | some (_, r') => r' | none => r1 else r1
    Sub (Pmax.toList r2) (it :: Pmax.toList r) ∧ (1 ≤ ef → Pmax.toList r2 ≠ []) := by
  intro r1 r2
  have p := hmax.push_perm r it
  have hne : Pmax.toList r1 ≠ [] := fun he => nomatch (he ▸ p).symm.eq_nil
  simp only [r2]
  split
  · rename_i hgt
    split
    · rename_i x r' hp
      have hp := (hmax.pop_some _ _ _ hp).1
      refine ⟨(Sub.of_perm_cons hp).trans (Sub.of_perm p), fun hef he => ?_⟩
      have hlen := hp.length_eq
      rw [he] at hlen
      exact Nat.not_lt_of_le hef (Nat.lt_of_lt_of_eq hgt hlen)
    · exact ⟨Sub.of_perm p, fun _ => hne⟩
  · exact ⟨Sub.of_perm p, fun _ => hne⟩

include hmin hmax in
theorem good_visit (lb : Score) (st : SearchSt Pmin Pmax) (n : Vid)
    (hP : s.isDeleted n = false → P n)
    (h : Good dist s q ep P st) : Good dist s q ep P (visitNbr Pmin Pmax dist s q ef lb st n) := by
  -- the branches of `visitNbr`: `n` tombstoned, `n` visited, `n` queued (case3), `n` only marked visited (case4)
  fun_cases visitNbr Pmin Pmax dist s q ef lb st n
  case case1 | case2 => exact h
  case case4 => exact ⟨fun it hit => (h.cOK it hit).mono, fun it hit => (h.rOK it hit).mono, h.rNodup⟩
  case case3 =>
    have hd := (Bool.not_eq_true _).mp ‹¬s.isDeleted n = true›
    have hv := ‹n ∉ st.vis›
    have newOK : ItemOK dist s q ep P (n :: st.vis) ⟨dist q (s.vecOf n), n⟩ :=
      ⟨List.mem_cons_self, rfl, Or.inr hd, hP hd⟩
    have hsub := (pushBounded hmax ef st.r ⟨dist q (s.vecOf n), n⟩).1
    refine ⟨fun it hit => ?_, fun it hit => ?_, hsub.nodup_map (·.vid) ?_⟩
    · rcases List.mem_cons.mp ((hmin.push_perm _ _).mem_iff.mp hit) with rfl | hm
      · exact newOK
      · exact (h.cOK it hm).mono
    · rcases List.mem_cons.mp (hsub.mem hit) with rfl | hm
      · exact newOK
      · exact (h.rOK it hm).mono
    · -- `n` is new among the results because every result has been visited
      refine List.nodup_cons.mpr ⟨fun hmem => ?_, h.rNodup⟩
      obtain ⟨it, hit, hvid⟩ := List.mem_map.mp hmem
      exact hv ((show it.vid = n from hvid) ▸ (h.rOK it hit).1)

/-- what `searchLevel` guarantees about its result queue -/
structure ResOK (dist : VecRef → VecRef → Score) (s : Index) (q : VecRef) (ep : Vid) (P : Vid → Prop)
    (l : List Item) : Prop where
  items : ∀ it ∈ l, it.score = dist q (s.vecOf it.vid) ∧ (it.vid = ep ∨ s.isDeleted it.vid = false) ∧ P it.vid
  nodup : (l.map (·.vid)).Nodup

theorem resOK_of_good (st : SearchSt Pmin Pmax) (h : Good dist s q ep P st) :
    ResOK dist s q ep P (Pmax.toList st.r) :=
  ⟨fun it hit => (h.rOK it hit).2, h.rNodup⟩

theorem searchLoop_induct (I : SearchSt Pmin Pmax → Prop)
    (step : ∀ st ci c' lb, I st → Pmin.pop st.c = some (ci, c') →
      I ((s.nbrs ci.vid level).foldl (visitNbr Pmin Pmax dist s q ef lb) ⟨c', st.r, st.vis⟩))
    (fuel : Nat) (st : SearchSt Pmin Pmax) (h : I st) :
    ∃ st', I st' ∧ searchLoop Pmin Pmax dist s q ef level fuel st = st'.r := by
  fun_induction searchLoop Pmin Pmax dist s q ef level fuel st with
  | case1 st | case2 _ st | case3 _ st | case4 _ st => exact ⟨st, h, rfl⟩
  | case5 f st ci c' hp lb _ _ ih => exact ih (step st ci c' lb h hp)

include hmin hmax in
theorem good_init (hep : P ep) : Good dist s q ep P
    ⟨Pmin.push Pmin.empty ⟨dist q (s.vecOf ep), ep⟩, Pmax.push Pmax.empty ⟨dist q (s.vecOf ep), ep⟩, [ep]⟩ := by
  have pc := hmin.push_empty ⟨dist q (s.vecOf ep), ep⟩
  have pr := hmax.push_empty ⟨dist q (s.vecOf ep), ep⟩
  have ok : ∀ it ∈ [(⟨dist q (s.vecOf ep), ep⟩ : Item)], ItemOK dist s q ep P [ep] it := by
    intro it hit
    cases List.mem_singleton.mp hit
    exact ⟨List.mem_singleton.mpr rfl, rfl, Or.inl rfl, hep⟩
  exact ⟨fun it hit => ok it (pc.mem_iff.mp hit), fun it hit => ok it (pr.mem_iff.mp hit),
    ((pr.map (·.vid)).nodup_iff).mpr (List.pairwise_singleton _ _)⟩

include hmin hmax in
theorem searchLevel_sound (hep : P ep)
    (hcl : ∀ u w, P u → w ∈ s.nbrs u level → s.isDeleted w = false → P w) :
    ResOK dist s q ep P (Pmax.toList (searchLevel Pmin Pmax dist s q ep ef level)) := by
  obtain ⟨st, hst, he⟩ := searchLoop_induct s q ef level (Good dist s q ep P) (fun st ci c' lb h hp => by
    have hperm := (hmin.pop_some _ _ _ hp).1
    have hci := (h.cOK ci (hperm.mem_iff.mpr List.mem_cons_self)).2.2.2
    refine List.foldlRecOn (motive := Good dist s q ep P) _ _ ?_
      fun st' h' n hn => good_visit hmin hmax s q ef ep P lb st' n (hcl ci.vid n hci hn) h'
    exact ⟨fun it hit => h.cOK it (hperm.mem_iff.mpr (List.mem_cons_of_mem _ hit)), h.rOK, h.rNodup⟩)
    (s.next + 1) _ (good_init hmin hmax s q ep P hep)
  unfold searchLevel
  rw [he]
  exact resOK_of_good s q ep P st hst

end
end Anndb
