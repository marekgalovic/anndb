import Anndb.Proofs.WalFlush
/-!
# C06: the size-limited `Entries` read and `DeleteGroup`

`badgerWAL.Entries` is a point lookup for a window of one key and otherwise the prefix scan over
the group's keys from `lo`, cut at `hi` and at the first entry that would push the accumulated size
over the limit (but never before one entry). On a run of keys both are
`limitSize (ents[lo-offset : hi-offset])`, which is what `MemoryStorage.Entries` returns.
-/
namespace Anndb.Wal

theorem getEntries_go_eq_limitSize_go (maxSize : Nat) (acc : List Entry) (size : Nat) (xs : List Entry) :
    Wal.getEntries.go maxSize acc size false xs = Mem.limitSize.go maxSize acc size xs := by
  fun_induction Mem.limitSize.go maxSize acc size xs with
  | case1 => rfl
  | case2 acc size x xs h => simp [Wal.getEntries.go, h]
  | case3 acc size x xs h ih => simpa [Wal.getEntries.go, h] using ih

theorem scan_eq_limitSize (maxSize : Nat) (cands : List Entry) :
    Wal.getEntries.go maxSize [] 0 true cands = Mem.limitSize cands maxSize := by
  cases cands with
  | nil => rfl
  | cons e rest =>
    simp only [Wal.getEntries.go, Mem.limitSize, Bool.not_true, Bool.and_false, Nat.zero_add]
    exact getEntries_go_eq_limitSize_go maxSize [e] e.size rest

namespace Mem

theorem limitSize_single (e : Entry) (maxSize : Nat) : limitSize [e] maxSize = [e] := by
  simp [limitSize, limitSize.go]

theorem limitSize_go_prefix (maxSize : Nat) (xs acc : List Entry) (size : Nat) :
    ∃ p, limitSize.go maxSize acc size xs = acc.reverse ++ p ∧ p <+: xs := by
  fun_induction limitSize.go maxSize acc size xs with
  | case1 acc => exact ⟨[], by simp, List.prefix_refl _⟩
  | case2 acc size x xs h => exact ⟨[], by simp, List.nil_prefix⟩
  | case3 acc size x xs h ih =>
    obtain ⟨p, hp, hpre⟩ := ih
    exact ⟨x :: p, by rw [hp]; simp, List.cons_prefix_cons.mpr ⟨rfl, hpre⟩⟩

/-- a size-limited read is a run from the start of the requested window: nothing is stepped over -/
theorem limitSize_prefix (xs : List Entry) (maxSize : Nat) : limitSize xs maxSize <+: xs := by
  cases xs with
  | nil => simp [limitSize]
  | cons e rest =>
    obtain ⟨p, hp, hpre⟩ := limitSize_go_prefix maxSize rest [e] e.size
    simp only [limitSize, hp, List.reverse_cons, List.reverse_nil, List.nil_append, List.singleton_append]
    exact List.cons_prefix_cons.mpr ⟨rfl, hpre⟩

/-- the first entry is returned whatever its size -/
theorem limitSize_ne_nil (xs : List Entry) (maxSize : Nat) (h : xs ≠ []) : limitSize xs maxSize ≠ [] := by
  cases xs with
  | nil => exact absurd rfl h
  | cons e rest =>
    obtain ⟨p, hp, _⟩ := limitSize_go_prefix maxSize rest [e] e.size
    simp [limitSize, hp]

theorem entries_ok {m : Mem} {lo : Nat} (hlo : m.offset < lo) (hlen : m.ents.length ≠ 1) (hi maxSize : Nat) :
    m.entries lo hi maxSize = .ok (Mem.limitSize ((m.ents.drop (lo - m.offset)).take (hi - lo)) maxSize) := by
  simp only [Mem.entries, if_neg (Nat.not_le.mpr hlo), beq_false_of_ne hlen, Bool.false_eq_true, if_false]

end Mem

theorem getEntries_run {w : Wal} {a : Nat} (run : IsRun a w.disk.ents) {lo hi : Nat} (hlo : a ≤ lo)
    (hk : lo - a < w.disk.ents.length) (maxSize : Nat) :
    w.getEntries lo hi maxSize = .ok (Mem.limitSize ((w.disk.ents.drop (lo - a)).take (hi - lo)) maxSize) := by
  unfold Wal.getEntries
  by_cases hone : hi - lo = 1
  · simp only [hone, beq_self_eq_true, if_true, run.find?_eq hlo, List.getElem?_eq_getElem hk,
      List.drop_eq_getElem_cons hk, List.take_succ_cons, List.take_zero, Mem.limitSize_single]
  · simp only [beq_false_of_ne hone, Bool.false_eq_true, if_false, run.filter_ge, (run.drop _).takeWhile_lt,
      Nat.add_sub_cancel' hlo, scan_eq_limitSize]

theorem WF.window_start {w : Wal} (h : WF w) {lo hi : Nat} (hlo : (abs w).firstIndex ≤ lo) (hlt : lo < hi)
    (hhi : hi ≤ (abs w).lastIndex + 1) : lo - (abs w).snap.index < w.disk.ents.length := by
  rw [h.firstIndex] at hlo
  rw [h.lastIndex] at hhi
  exact Nat.sub_lt_left_of_lt_add (Nat.le_of_succ_le hlo) (Nat.lt_of_lt_of_le hlt hhi)

/-- **`Entries` refines `MemoryStorage.Entries`**: both return the size-limited window of the log -/
theorem entries_refines (w : Wal) (h : WF w) (lo hi maxSize : Nat)
    (hlo : (abs w).firstIndex ≤ lo) (hlt : lo < hi) (hhi : hi ≤ (abs w).lastIndex + 1) :
    ∃ w', w.entries lo hi maxSize =
        .ok (Mem.limitSize (((abs w).ents.drop (lo - (abs w).offset)).take (hi - lo)) maxSize, w') ∧
      (abs w).entries lo hi maxSize =
        .ok (Mem.limitSize (((abs w).ents.drop (lo - (abs w).offset)).take (hi - lo)) maxSize) ∧
      w'.disk = w.disk ∧ WF w' := by
  obtain ⟨w1, hf, hd1, h1⟩ := firstIndex_refines w h
  -- `w1` differs from `w` in a cached value: the reads are about `w1`
  rw [← abs_congr hd1] at hf hlo hhi ⊢
  have hlo' : (abs w1).snap.index + 1 ≤ lo := h1.firstIndex ▸ hlo
  have hk1 : 1 ≤ lo - (abs w1).snap.index := Nat.le_sub_of_add_le' hlo'
  have hk := h1.window_start hlo hlt hhi
  refine ⟨w1, ?_, Mem.entries_ok (h1.offset ▸ hlo') ?_ hi maxSize, hd1, h1⟩
  · simp only [Wal.entries, hf, bind, Except.bind, if_neg (Nat.not_lt.mpr hlo), lastIndex_refines w1 h1,
      if_neg (Nat.not_lt.mpr hhi), getEntries_run h1.isRun (Nat.le_of_lt hlo') hk, h1.offset, abs_ents,
      absEnts_drop _ _ hk1]
  · rw [abs_ents, absEnts_length]
    exact Nat.ne_of_gt (Nat.lt_of_le_of_lt hk1 hk)

theorem entries_compacted (w : Wal) (h : WF w) (lo hi maxSize : Nat) (hlo : lo < (abs w).firstIndex) :
    w.entries lo hi maxSize = .error .compacted ∧ (abs w).entries lo hi maxSize = .error .compacted := by
  obtain ⟨w1, hf, _, _⟩ := firstIndex_refines w h
  constructor
  · unfold Wal.entries
    rw [hf]
    simp only [bind, Except.bind, hlo, if_true]
  · exact if_pos (Nat.le_of_lt_succ hlo)

/-! ## DeleteGroup -/

theorem deleteGroup_erases (w : Wal) : (Wal.deleteGroup w).disk = ⟨[], none, none⟩ := by
  simp only [Wal.deleteGroup, Wal.reset, List.map_nil, List.append_nil, flush_dels_self]

theorem open_after_deleteGroup (w : Wal) : Wal.open_ (Wal.deleteGroup w).disk = Wal.fresh := by
  rw [deleteGroup_erases]; rfl

end Anndb.Wal
