import Anndb.Proofs.HnswSearch
import Anndb.Proofs.PQLemmas
/-!
# Greedy descent and neighbour selection preserve what `searchLevel` established
-/
namespace Anndb

section
variable {Pmin Pmax : PQImpl} {dist : VecRef → VecRef → Score} (cfg : Cfg)
variable (hmin : Lawful Pmin minBetter) (hmax : Lawful Pmax maxBetter)
variable (s : Index) (q : VecRef)

theorem greedyScan_some (l : Nat) (cur : Vid) (dmin : Score) (w : Vid) (d : Score)
    (h : greedyScan dist s q l cur dmin = (some w, d)) :
    w ∈ s.nbrs cur l ∧ s.isDeleted w = false := by
  refine List.foldlRecOn (motive := fun acc => ∀ u, acc.1 = some u → u ∈ s.nbrs cur l ∧ s.isDeleted u = false)
    (s.nbrs cur l) _ (b := (none, dmin)) (fun _ hu => nomatch hu) ?_ w (congrArg Prod.fst h)
  intro acc hacc n hn
  dsimp only
  split
  · exact hacc
  · rename_i hd
    split
    · intro u hu; cases hu; exact ⟨hn, (Bool.not_eq_true _).mp hd⟩
    · exact hacc

theorem greedy_closed (R : Vid → Prop)
    (hR : ∀ l u w, R u → w ∈ s.nbrs u l → s.isDeleted w = false → R w)
    (l fuel : Nat) (cur : Vid) (dmin : Score) (hcur : R cur) :
    R (greedy dist s q l fuel cur dmin).1 := by
  fun_induction greedy dist s q l fuel cur dmin with
  | case1 | case2 => exact hcur
  | case3 fuel cur dmin w d hsc ih =>
    have := greedyScan_some s q l cur dmin w d hsc
    exact ih (hR l cur w hcur this.1 this.2)

variable (dist) in
theorem descend_closed (R : Vid → Prop)
    (hR : ∀ l u w, R u → w ∈ s.nbrs u l → s.isDeleted w = false → R w)
    (lo n : Nat) (cur : Vid) (dmin : Score) (hcur : R cur) :
    R (descend dist s q lo n cur dmin).1 := by
  fun_induction descend dist s q lo n cur dmin with
  | case1 => exact hcur
  | case2 n cur dmin l cur' d' hg ih =>
    have := greedy_closed (dist := dist) s q R hR l s.next cur dmin hcur
    rw [hg] at this
    exact ih this

/-- the per-item facts that selection must preserve (start vertex `ep`, predicate `P`) -/
def ItemFact (dist : VecRef → VecRef → Score) (s : Index) (q : VecRef) (ep : Vid) (P : Vid → Prop) (it : Item) : Prop :=
  it.score = dist q (s.vecOf it.vid) ∧ (it.vid = ep ∨ s.isDeleted it.vid = false) ∧ P it.vid

include hmin hmax in
theorem fillResult_best (k fuel : Nat) (c : Pmin.Q) (r : Pmax.Q)
    (hdom : ∀ y ∈ Pmax.toList r, ∀ x ∈ Pmin.toList c, y.score ≤ x.score) :
    Best (Pmax.toList (fillResult Pmin Pmax k fuel c r)) (Pmax.toList r ++ Pmin.toList c) := by
  fun_induction fillResult Pmin Pmax k fuel c r with
  | case1 | case2 | case4 => exact ⟨_, .refl _, hdom⟩
  | case3 f c r hlt x c' hp ih =>
    have hpop := hmin.pop_some _ _ _ hp
    have p1 := hmax.push_perm r x
    refine (ih fun y hy z hz => ?_).of_perm
      ((p1.append_right _).trans (List.perm_middle.symm.trans (hpop.1.symm.append_left _)))
    -- the popped minimum is below the remaining candidates
    have hzc : z ∈ Pmin.toList c := hpop.1.mem_iff.mpr (List.mem_cons_of_mem _ hz)
    rcases List.mem_cons.mp (p1.mem_iff.mp hy) with rfl | hyr
    · exact hpop.2 z hzc
    · exact hdom y hyr z hzc

include hmin hmax in
theorem fillResult_length (k fuel : Nat) (c : Pmin.Q) (r : Pmax.Q) (hr : Pmax.len r ≤ k) (hf : Pmin.len c ≤ fuel) :
    Pmax.len (fillResult Pmin Pmax k fuel c r) = min k (Pmax.len r + Pmin.len c) := by
  fun_induction fillResult Pmin Pmax k fuel c r with
  | case1 c r => rw [Nat.le_zero.mp hf, Nat.add_zero, Nat.min_eq_right hr]
  | case2 f c r hlt hnone =>
    have : Pmin.len c = 0 := by simp [PQImpl.len, hmin.pop_none _ hnone]
    rw [this, Nat.add_zero, Nat.min_eq_right hr]
  | case3 f c r hlt x c' hp ih =>
    have hl1 : Pmax.len (Pmax.push r x) = Pmax.len r + 1 := (hmax.push_perm r x).length_eq
    rw [hmin.len_pop hp] at hf ⊢
    rw [ih (hl1 ▸ hlt) (Nat.le_of_succ_le_succ hf), hl1, Nat.add_right_comm, Nat.add_assoc]
  | case4 f c r hge =>
    rw [Nat.le_antisymm hr (Nat.le_of_not_gt hge), Nat.min_eq_left (Nat.le_add_right ..)]

theorem extend_fold {I : Pmin.Q × List Vid → Prop} (level : Nat) (cs : List Vid) (a : Pmin.Q × List Vid)
    (hpush : ∀ c ∈ cs, ∀ w ∈ s.nbrs c level, s.isDeleted w = false → ∀ a : Pmin.Q × List Vid, w ∉ a.2 → I a →
      I (Pmin.push a.1 ⟨dist q (s.vecOf w), w⟩, w :: a.2))
    (ha : I a) : I (cs.foldl (extendStep Pmin dist s q level) a) := by
  refine List.foldlRecOn cs _ ha fun a ha c hc => ?_
  refine List.foldlRecOn (s.nbrs c level) _ ha fun a ha w hw => ?_
  split
  · exact ha
  · rename_i hd
    split
    · exact ha
    · rename_i hv
      exact hpush c hc w hw ((Bool.not_eq_true _).mp hd) a hv ha

/-- the vertices a candidate extension may add to `items` -/
def Ext (s : Index) (level : Nat) (items : List Item) (ext : List Vid) : Prop :=
  ext.Nodup ∧ ∀ w ∈ ext, s.isDeleted w = false ∧ w ∉ items.map (·.vid) ∧ ∃ it ∈ items, w ∈ s.nbrs it.vid level

/-- invariant of the candidate extension, `a` being the queue and the seen list -/
def CandInv (dist : VecRef → VecRef → Score) (s : Index) (q : VecRef) (level : Nat) (items : List Item)
    (a : Pmin.Q × List Vid) : Prop :=
  ∃ ext, Ext s level items ext ∧
    (Pmin.toList a.1).Perm (ext.map (fun w => ⟨dist q (s.vecOf w), w⟩) ++ items) ∧
    ∀ w, w ∈ a.2 ↔ w ∈ ext ∨ w ∈ items.map (·.vid)

variable (dist) in
include hmin hmax in
/-- What neighbour selection returns, in either mode: a choice of the `k` best among the given items
and, in the heuristic mode with extension, those of some `ext`. -/
theorem selectNbrs_spec (n : Pmax.Q) (k level : Nat) :
    ∃ ext, Ext s level (Pmax.toList n) ext ∧
      Best (Pmax.toList (selectNbrs Pmin Pmax dist cfg s q n k level))
        (ext.map (fun w => ⟨dist q (s.vecOf w), w⟩) ++ Pmax.toList n) ∧
      Pmax.len (selectNbrs Pmin Pmax dist cfg s q n k level) = min k (ext.length + Pmax.len n) := by
  unfold selectNbrs
  split
  · have h0 : CandInv (Pmin := Pmin) dist s q level (Pmax.toList n)
        (Pmin.ofList (Pmax.toList n), (Pmax.toList n).map (·.vid)) :=
      ⟨[], ⟨List.nodup_nil, nofun⟩, hmin.ofList_perm _, fun w => by simp⟩
    have hcand : ∃ cand, CandInv (Pmin := Pmin) dist s q level (Pmax.toList n) cand ∧
        selectHeuristic Pmin Pmax dist cfg s q n k level =
          fillResult Pmin Pmax k (Pmin.len cand.1) cand.1 Pmax.empty := by
      unfold selectHeuristic
      split
      · refine ⟨_, extend_fold s q level _ _ ?_ h0, rfl⟩
        intro c hc w hw hd a hv ⟨ext, ⟨hnd, hext⟩, hperm, hseen⟩
        obtain ⟨it, hit, rfl⟩ := List.mem_map.mp hc
        have hv' := fun h => hv ((hseen w).mpr h)
        refine ⟨w :: ext, ⟨List.nodup_cons.mpr ⟨fun h => hv' (Or.inl h), hnd⟩, ?_⟩,
          (hmin.push_perm _ _).trans (hperm.cons _), fun u => by simp only [List.mem_cons, hseen u, or_assoc]⟩
        intro u hu
        rcases List.mem_cons.mp hu with rfl | hu
        · exact ⟨hd, fun h => hv' (Or.inr h), it, (PQImpl.drain_perm hmax n).mem_iff.mp hit, hw⟩
        · exact hext u hu
      · exact ⟨_, h0, rfl⟩
    obtain ⟨cand, ⟨ext, hext, hperm, _⟩, he⟩ := hcand
    have hb := fillResult_best hmin hmax k (Pmin.len cand.1) cand.1 Pmax.empty
      (by rw [hmax.empty_list]; exact nofun)
    have h0 : Pmax.len Pmax.empty = 0 := by simp [PQImpl.len, hmax.empty_list]
    have hl := fillResult_length hmin hmax k (Pmin.len cand.1) cand.1 Pmax.empty (h0 ▸ Nat.zero_le k) (Nat.le_refl _)
    rw [hmax.empty_list, List.nil_append] at hb
    rw [he, hl, h0, Nat.zero_add]
    refine ⟨ext, hext, hb.of_perm hperm, congrArg (min k) ?_⟩
    simpa [PQImpl.len] using hperm.length_eq
  · exact ⟨[], ⟨List.nodup_nil, nofun⟩, PQImpl.trimTo_best hmax k _ n,
      by rw [List.length_nil, Nat.zero_add]; exact PQImpl.trimTo_length hmax k _ n (Nat.le_add_left ..)⟩

include hmin hmax in
theorem selectNbrs_ok {ep : Vid} {P : Vid → Prop} (n : Pmax.Q) (k level : Nat)
    (hcl : ∀ u w, P u → w ∈ s.nbrs u level → s.isDeleted w = false → P w)
    (h : ResOK dist s q ep P (Pmax.toList n)) :
    ResOK dist s q ep P (Pmax.toList (selectNbrs Pmin Pmax dist cfg s q n k level)) := by
  obtain ⟨ext, ⟨hnd, hext⟩, hb, _⟩ := selectNbrs_spec dist cfg hmin hmax s q n k level
  refine ⟨fun it hit => ?_, hb.sub.nodup_map (·.vid) ?_⟩
  · rcases List.mem_append.mp (hb.sub.mem hit) with hm | hm
    · obtain ⟨w, hw, rfl⟩ := List.mem_map.mp hm
      obtain ⟨hd, _, c, hc, hwc⟩ := hext w hw
      exact ⟨rfl, Or.inr hd, hcl c.vid w (h.items c hc).2.2 hwc hd⟩
    · exact h.items it hm
  · rw [List.map_append, List.map_map]
    refine List.nodup_append.mpr ⟨by simpa [Function.comp_def] using hnd, h.nodup, fun a ha b hb hab => ?_⟩
    obtain ⟨w, hw, rfl⟩ := List.mem_map.mp ha
    exact (hext w hw).2.1 ((show w = b from hab) ▸ hb)

include hmin hmax in
theorem selectNbrs_pred (P : Vid → Prop) (n : Pmax.Q) (k level : Nat)
    (hcl : ∀ u w, P u → w ∈ s.nbrs u level → s.isDeleted w = false → P w)
    (h : ∀ it ∈ Pmax.toList n, P it.vid) :
    ∀ it ∈ Pmax.toList (selectNbrs Pmin Pmax dist cfg s q n k level), P it.vid := by
  obtain ⟨ext, ⟨_, hext⟩, hb, _⟩ := selectNbrs_spec dist cfg hmin hmax s q n k level
  intro it hit
  rcases List.mem_append.mp (hb.sub.mem hit) with hm | hm
  · obtain ⟨w, hw, rfl⟩ := List.mem_map.mp hm
    obtain ⟨hd, _, c, hc, hwc⟩ := hext w hw
    exact hcl c.vid w (h c hc) hwc hd
  · exact h it hm

variable (dist) in
include hmin hmax in
theorem selectNbrs_nonempty (n : Pmax.Q) (k level : Nat) (hk : 1 ≤ k) (hn : Pmax.toList n ≠ []) :
    Pmax.toList (selectNbrs Pmin Pmax dist cfg s q n k level) ≠ [] := by
  obtain ⟨_, _, _, hl⟩ := selectNbrs_spec dist cfg hmin hmax s q n k level
  refine List.ne_nil_of_length_pos (Nat.lt_of_lt_of_eq (Nat.lt_min.mpr ⟨hk, ?_⟩) hl.symm)
  exact Nat.lt_of_lt_of_le (List.length_pos_iff.mpr hn) (Nat.le_add_left ..)

end
end Anndb
