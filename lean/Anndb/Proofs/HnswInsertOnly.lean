import Anndb.Proofs.HnswInv
/-!
# Insert-only collections small enough that no level-0 link is dropped (C07)

`IO cfg s` is the invariant of an index built by inserts alone while it holds at most `mMax0 + 1`
items; its level-0 graph is symmetric and links every vertex but the first to an older one — hence
connected. One more insert keeps it (`io_insert`): above level 0 all that matters of the linking is
`Relinked`; at level 0 the collection is `Small`, so no list outgrows its budget, nothing is pruned
and the links stay symmetric (`linkAll0`).
-/
namespace Anndb

/-! ## live-ness and validity of links -/

/-- every allocated vertex is live; nothing is allocated from `next` on -/
structure AllLive (s : Index) : Prop where
  live : ∀ v, v < s.next → s.isDeleted v = false
  fresh : ∀ v, s.next ≤ v → s.verts v = none

theorem verts_ne_none_of_live {t : Index} {v : Vid} (h : t.isDeleted v = false) : t.verts v ≠ none := by
  intro hn; simp [Index.isDeleted, hn] at h

theorem AllLive.lt_of_live {s : Index} (h : AllLive s) {v : Vid} (hv : s.isDeleted v = false) : v < s.next :=
  Nat.lt_of_not_le fun hle => verts_ne_none_of_live hv (h.fresh v hle)

theorem AllLive.of_frame {s t : Index} (h : AllLive s) (f : EdgeFrame s t) : AllLive t := by
  constructor
  · intro v hv
    rw [f.isDeleted_eq]
    exact h.live v (f.next ▸ hv)
  · intro v hv
    obtain ⟨e, he⟩ := f.verts v
    rw [he, h.fresh v (f.next ▸ hv)]
    rfl

/-- links lead to live vertices -/
def Valid (s : Index) : Prop := ∀ u l w, w ∈ s.nbrs u l → s.isDeleted w = false

/-- `t'` is `t` with link lists of level `l` replaced, the new ones leading to live vertices if the
old ones did: what every linking operation at level `l` does, whatever it selects -/
structure Relinked (l : Nat) (t t' : Index) : Prop where
  frame : EdgeFrame t t'
  other : ∀ l', l' ≠ l → ∀ u, t'.nbrs u l' = t.nbrs u l'
  valid : Valid t → Valid t'

namespace Relinked
variable {l : Nat} {t t' t'' : Index}

theorem refl (l : Nat) (t : Index) : Relinked l t t := ⟨.refl t, fun _ _ _ => rfl, id⟩

theorem trans (h₁ : Relinked l t t') (h₂ : Relinked l t' t'') : Relinked l t t'' :=
  ⟨h₁.frame.trans h₂.frame, fun l' hl u => (h₂.other l' hl u).trans (h₁.other l' hl u),
   fun hv => h₂.valid (h₁.valid hv)⟩

theorem setEdges (t : Index) (v : Vid) (l : Nat) (es : List (Vid × Score))
    (hes : Valid t → ∀ e ∈ es, t.isDeleted e.1 = false) : Relinked l t (t.setEdges v l es) := by
  refine ⟨.setEdges .., fun l' hl u => by rw [nbrs_setEdges, if_neg fun hc => hl hc.2.1], fun hv u l' x hx => ?_⟩
  rw [(EdgeFrame.setEdges ..).isDeleted_eq]
  rw [nbrs_setEdges] at hx
  split at hx
  · obtain ⟨e, he, rfl⟩ := List.mem_map.mp hx
    exact hes hv e he
  · exact hv u l' x hx

theorem addEdge (t : Index) (v : Vid) (l : Nat) {w : Vid} (hw : t.isDeleted w = false) (d : Score) :
    Relinked l t (t.addEdge v l w d) := by
  rw [addEdge_eq_setEdges]
  refine setEdges _ _ _ _ fun hv e he => ?_
  rcases List.mem_cons.mp he with rfl | he
  · exact hw
  · exact hv v l e.1 (List.mem_map_of_mem (List.mem_filter.mp he).1)

end Relinked

section
variable {Pmin Pmax : PQImpl} {dist : VecRef → VecRef → Score} (cfg : Cfg)
variable (hmin : Lawful Pmin minBetter) (hmax : Lawful Pmax maxBetter)

include hmin hmax in
theorem prune_relinked (t : Index) (w : Vid) (k l : Nat) : Relinked l t (prune Pmin Pmax dist cfg t w k l) := by
  refine Relinked.setEdges _ _ _ _ fun _ e he => ?_
  obtain ⟨it, hit, rfl⟩ := List.mem_map.mp he
  -- selected from the live old links and their live neighbours
  refine selectNbrs_pred cfg hmin hmax t _ (fun y => t.isDeleted y = false) _ k l (fun _ _ _ _ h => h) ?_ it hit
  refine List.foldlRecOn (motive := fun q => ∀ it ∈ Pmax.toList q, t.isDeleted it.vid = false) _ _
    (by simp [hmax.empty_list]) fun q hq e he it hit => ?_
  rcases List.mem_cons.mp ((hmax.push_perm q _).mem_iff.mp hit) with rfl | h
  · simpa using (List.mem_filter.mp he).2
  · exact hq it h

/-! ## one step of `linkAll` -/

/-- the links `v → w` and `w → v` of level `l` -/
def Index.link (t : Index) (v : Vid) (l : Nat) (w : Vid) (d : Score) : Index :=
  (t.addEdge v l w d).addEdge w l v d

theorem link_relinked {t : Index} {v w : Vid} (hv : t.isDeleted v = false) (hw : t.isDeleted w = false)
    (l : Nat) (d : Score) : Relinked l t (t.link v l w d) :=
  (Relinked.addEdge t v l hw d).trans
    (Relinked.addEdge _ w l (((EdgeFrame.addEdge ..).isDeleted_eq _).trans hv) d)

theorem mem_nbrs_link {t : Index} {v w : Vid} (hv : t.isDeleted v = false) (hw : t.isDeleted w = false)
    (l : Nat) (d : Score) (u : Vid) (l' : Nat) (x : Vid) :
    x ∈ (t.link v l w d).nbrs u l' ↔
      (u = w ∧ l' = l ∧ x = v) ∨ (u = v ∧ l' = l ∧ x = w) ∨ x ∈ t.nbrs u l' := by
  rw [Index.link, mem_nbrs_addEdge (verts_ne_none_of_live (((EdgeFrame.addEdge ..).isDeleted_eq _).trans hw)),
    mem_nbrs_addEdge (verts_ne_none_of_live hv)]

/-- the state after linking `v` and `it` and pruning `it`'s list if it has grown too long -/
def linkStep (Pmin Pmax : PQImpl) (dist : VecRef → VecRef → Score) (cfg : Cfg) (t : Index) (v : Vid) (l : Nat)
    (it : Item) : Index :=
  if ((t.link v l it.vid it.score).edgesOf it.vid l).length > mMaxAt cfg l then
    prune Pmin Pmax dist cfg (t.link v l it.vid it.score) it.vid (mMaxAt cfg l) l
  else t.link v l it.vid it.score

theorem linkAll_cons (v : Vid) (l : Nat) (it : Item) (rest : List Item) (t : Index) (cur : Vid) :
    linkAll Pmin Pmax dist cfg v l (it :: rest) t cur =
      linkAll Pmin Pmax dist cfg v l rest (linkStep Pmin Pmax dist cfg t v l it) it.vid := rfl

include hmin hmax in
theorem linkStep_relinked {t : Index} {v : Vid} {it : Item} (hv : t.isDeleted v = false)
    (hw : t.isDeleted it.vid = false) (l : Nat) : Relinked l t (linkStep Pmin Pmax dist cfg t v l it) := by
  unfold linkStep
  split
  · exact (link_relinked hv hw l _).trans (prune_relinked cfg hmin hmax ..)
  · exact link_relinked hv hw l _

include hmin hmax in
theorem linkAll_relinked (v : Vid) (l : Nat) (its : List Item) (t : Index) (cur : Vid)
    (hv : t.isDeleted v = false) (hits : ∀ it ∈ its, t.isDeleted it.vid = false) :
    Relinked l t (linkAll Pmin Pmax dist cfg v l its t cur).1 := by
  induction its generalizing t cur with
  | nil => exact .refl l t
  | cons it rest ih =>
    have r := linkStep_relinked (dist := dist) cfg hmin hmax hv (hits it List.mem_cons_self) l
    rw [linkAll_cons]
    exact r.trans (ih _ _ ((r.frame.isDeleted_eq _).trans hv)
      fun x hx => (r.frame.isDeleted_eq _).trans (hits x (List.mem_cons_of_mem _ hx)))

variable (Pmin Pmax dist) in
theorem linkAll_closed (R : Vid → Prop) (v : Vid) (l : Nat) (its : List Item) (t : Index) (cur : Vid)
    (hcur : R cur) (hits : ∀ it ∈ its, R it.vid) : R (linkAll Pmin Pmax dist cfg v l its t cur).2 := by
  fun_induction linkAll Pmin Pmax dist cfg v l its t cur with
  | case1 => exact hcur
  | case2 it rest _ _ _ _ _ ih =>
    exact ih (hits it List.mem_cons_self) fun x hx => hits x (List.mem_cons_of_mem _ hx)

/-! ## level 0 while no link is dropped -/

/-- the level-0 graph is symmetric, loop-free and duplicate-free -/
structure L0 (t : Index) : Prop where
  sym : ∀ u w, w ∈ t.nbrs u 0 → u ∈ t.nbrs w 0
  irrefl : ∀ u, u ∉ t.nbrs u 0
  nodup : ∀ u, (t.nbrs u 0).Nodup

theorem L0.congr {s t : Index} (h : L0 s) (he : ∀ u, t.nbrs u 0 = s.nbrs u 0) : L0 t :=
  ⟨fun u w hw => by rw [he] at hw ⊢; exact h.sym u w hw,
   fun u hu => by rw [he] at hu; exact h.irrefl u hu,
   fun u => by rw [he]; exact h.nodup u⟩

theorem link_l0 {t : Index} {v w : Vid} (h0 : L0 t) (hv : t.isDeleted v = false) (hw : t.isDeleted w = false)
    (hwv : w ≠ v) (d : Score) : L0 (t.link v 0 w d) := by
  have hmem := mem_nbrs_link hv hw 0 d
  refine ⟨fun u x hx => ?_, fun u hu => ?_, fun u => ?_⟩
  · rcases (hmem u 0 x).mp hx with ⟨rfl, _, rfl⟩ | ⟨rfl, _, rfl⟩ | h
    · exact (hmem ..).mpr (Or.inr (Or.inl ⟨rfl, rfl, rfl⟩))
    · exact (hmem ..).mpr (Or.inl ⟨rfl, rfl, rfl⟩)
    · exact (hmem ..).mpr (Or.inr (Or.inr (h0.sym u x h)))
  · rcases (hmem u 0 u).mp hu with ⟨h1, _, h2⟩ | ⟨h1, _, h2⟩ | h
    · exact hwv (h1.symm.trans h2)
    · exact hwv (h2.symm.trans h1)
    · exact h0.irrefl u h
  · exact nodup_nbrs_addEdge (nodup_nbrs_addEdge (h0.nodup u))

/-- what every link step of an insert into a small collection keeps — the graph part of `IO`: with
at most `mMax0 + 1` vertices no level-0 list can outgrow its budget (`degree_le`) -/
structure Small (cfg : Cfg) (t : Index) : Prop where
  al : AllLive t
  valid : Valid t
  l0 : L0 t
  small : t.next ≤ cfg.mMax0 + 1

namespace Small
variable {cfg} {t t' : Index}

theorem degree_le (h : Small cfg t) {u : Vid} (hu : t.isDeleted u = false) :
    (t.edgesOf u 0).length ≤ cfg.mMax0 := by
  -- `u` and its level-0 neighbours are distinct allocated vertices
  have := (List.nodup_cons.mpr ⟨h.l0.irrefl u, h.l0.nodup u⟩).length_le_of_subset (l₂ := List.range t.next)
    fun x hx => List.mem_range.mpr (h.al.lt_of_live ((List.mem_cons.mp hx).elim (· ▸ hu) (h.valid u 0 x)))
  rw [List.length_cons, List.length_range, Index.nbrs, List.length_map] at this
  exact Nat.le_of_lt_succ (Nat.lt_of_lt_of_le this h.small)

theorem relinked (h : Small cfg t) {l : Nat} (r : Relinked l t t') (hl : l ≠ 0) : Small cfg t' :=
  ⟨h.al.of_frame r.frame, r.valid h.valid, h.l0.congr (r.other 0 hl.symm), r.frame.next ▸ h.small⟩

theorem link0 (h : Small cfg t) {v w : Vid} (hv : t.isDeleted v = false) (hw : t.isDeleted w = false)
    (hwv : w ≠ v) (d : Score) : Small cfg (t.link v 0 w d) :=
  have r := link_relinked hv hw 0 d
  ⟨h.al.of_frame r.frame, r.valid h.valid, link_l0 h.l0 hv hw hwv d, r.frame.next ▸ h.small⟩

end Small

variable (Pmin Pmax dist) in
theorem linkAll0 (v : Vid) (its : List Item) (t : Index) (cur : Vid) (h : Small cfg t)
    (hv : t.isDeleted v = false) (hits : ∀ it ∈ its, t.isDeleted it.vid = false ∧ it.vid ≠ v) :
    Small cfg (linkAll Pmin Pmax dist cfg v 0 its t cur).1 ∧
    (∀ u x, x ∈ t.nbrs u 0 → x ∈ (linkAll Pmin Pmax dist cfg v 0 its t cur).1.nbrs u 0) ∧
    (∀ it ∈ its, it.vid ∈ (linkAll Pmin Pmax dist cfg v 0 its t cur).1.nbrs v 0) := by
  induction its generalizing t cur with
  | nil => exact ⟨h, fun _ _ h => h, nofun⟩
  | cons it rest ih =>
    obtain ⟨hw, hwv⟩ := hits it List.mem_cons_self
    have h' := h.link0 hv hw hwv it.score
    have hd := (link_relinked hv hw 0 it.score).frame.isDeleted_eq
    -- no list outgrows its budget: nothing is pruned
    have hstep : linkStep Pmin Pmax dist cfg t v 0 it = t.link v 0 it.vid it.score :=
      if_neg (Nat.not_lt.mpr (h'.degree_le ((hd _).trans hw)))
    have hmem := mem_nbrs_link hv hw 0 it.score
    rw [linkAll_cons, hstep]
    obtain ⟨a, b, c⟩ := ih _ it.vid h' ((hd _).trans hv)
      fun x hx => ⟨(hd _).trans (hits x (List.mem_cons_of_mem _ hx)).1, (hits x (List.mem_cons_of_mem _ hx)).2⟩
    refine ⟨a, fun u x hx => b u x ((hmem u 0 x).mpr (Or.inr (Or.inr hx))), fun x hx => ?_⟩
    rcases List.mem_cons.mp hx with rfl | hx
    · exact b v _ ((hmem v 0 _).mpr (Or.inr (Or.inl ⟨rfl, rfl, rfl⟩)))
    · exact c x hx

/-! ## all levels -/

/-- the neighbours chosen for the new vertex at level `l` -/
def levelItems (Pmin Pmax : PQImpl) (dist : VecRef → VecRef → Score) (cfg : Cfg) (t : Index) (q : VecRef)
    (cur : Vid) (l : Nat) : List Item :=
  Pmax.drain (selectNbrs Pmin Pmax dist cfg t q (searchLevel Pmin Pmax dist t q cur cfg.efC l) cfg.m l)

variable (dist) in
include hmin hmax in
theorem levelItems_ok (t : Index) (v cur : Vid) (q : VecRef) (l : Nat)
    (hcur : t.isDeleted cur = false ∧ cur ≠ v) (hno : ∀ u, v ∉ t.nbrs u l) :
    ∀ it ∈ levelItems Pmin Pmax dist cfg t q cur l,
      t.isDeleted it.vid = false ∧ it.vid ≠ v := by
  have hcl : ∀ u w, u ≠ v → w ∈ t.nbrs u l → t.isDeleted w = false → w ≠ v :=
    fun u w _ hw _ hwv => hno u (hwv ▸ hw)
  have hres := searchLevel_sound (dist := dist) hmin hmax t q cfg.efC l cur (fun u => u ≠ v) hcur.2 hcl
  have hsel := selectNbrs_ok cfg hmin hmax t q _ cfg.m l hcl hres
  intro it hit
  have := hsel.items it ((PQImpl.drain_perm hmax _).mem_iff.mp hit)
  exact ⟨this.2.1.elim (· ▸ hcur.1) id, this.2.2⟩

include hmin hmax in
theorem levelItems_ne_nil (hm : 1 ≤ cfg.m) (hefc : 1 ≤ cfg.efC) (t : Index) (cur : Vid) (q : VecRef) (l : Nat) :
    levelItems Pmin Pmax dist cfg t q cur l ≠ [] := by
  have hne := searchLevel_nonempty Pmin dist hmax t q cur cfg.efC l hefc
  have hsne := selectNbrs_nonempty dist cfg hmin hmax t q _ cfg.m l hm hne
  intro he
  have hp := PQImpl.drain_perm hmax
    (selectNbrs Pmin Pmax dist cfg t q (searchLevel Pmin Pmax dist t q cur cfg.efC l) cfg.m l)
  rw [show Pmax.drain _ = [] from he] at hp
  exact hsne hp.symm.eq_nil

include hmin hmax in
theorem insertLevels_io (hm : 1 ≤ cfg.m) (hefc : 1 ≤ cfg.efC) (v : Vid) (q : VecRef)
    (top : Nat) (t : Index) (cur : Vid) (h : Small cfg t) (hv : t.isDeleted v = false)
    (hcur : t.isDeleted cur = false ∧ cur ≠ v)
    (hno : ∀ l', l' ≤ top → ∀ u, v ∉ t.nbrs u l') :
    Small cfg (insertLevels Pmin Pmax dist cfg v q top t cur) ∧
    (∀ u x, x ∈ t.nbrs u 0 → x ∈ (insertLevels Pmin Pmax dist cfg v q top t cur).nbrs u 0) ∧
    (∃ w ∈ (insertLevels Pmin Pmax dist cfg v q top t cur).nbrs v 0, w ≠ v) := by
  fun_induction insertLevels Pmin Pmax dist cfg v q top t cur with
  | case1 t cur n sel =>
    have hits := levelItems_ok dist cfg hmin hmax t v cur q 0 hcur (hno 0 (Nat.le_refl _))
    obtain ⟨a, b, c⟩ := linkAll0 Pmin Pmax dist cfg v _ t cur h hv hits
    obtain ⟨it, hit⟩ := List.exists_mem_of_ne_nil _ (levelItems_ne_nil (dist := dist) cfg hmin hmax hm hefc t cur q 0)
    exact ⟨a, b, it.vid, c it hit, (hits it hit).2⟩
  | case2 l t cur n sel t' cur' hres ih =>
    have hits := levelItems_ok dist cfg hmin hmax t v cur q (l+1) hcur (hno (l+1) (Nat.le_refl _))
    have r := linkAll_relinked (dist := dist) cfg hmin hmax v (l+1) (Pmax.drain sel) t cur hv fun it hit => (hits it hit).1
    have hc := linkAll_closed Pmin Pmax dist cfg
      (fun u => t.isDeleted u = false ∧ u ≠ v) v (l+1) (Pmax.drain sel) t cur hcur hits
    rw [hres] at r hc
    have hlow : ∀ l', l' ≤ l → ∀ u, t'.nbrs u l' = t.nbrs u l' := fun l' hl' => r.other l' (Nat.ne_of_lt (Nat.lt_succ_of_le hl'))
    obtain ⟨a, b, c⟩ := ih (h.relinked r (Nat.succ_ne_zero l)) ((r.frame.isDeleted_eq _).trans hv)
      ⟨(r.frame.isDeleted_eq _).trans hc.1, hc.2⟩ fun l' hl' u => hlow l' hl' u ▸ hno l' (Nat.le_succ_of_le hl') u
    exact ⟨a, fun u x hx => b u x (hlow 0 (Nat.zero_le _) u ▸ hx), c⟩

/-! ## the invariant of small insert-only collections -/

structure IO (cfg : Cfg) (s : Index) : Prop where
  al : AllLive s
  valid : Valid s
  l0 : L0 s
  /-- every vertex but the first has a level-0 link to an older one -/
  parent : ∀ v, 0 < v → v < s.next → ∃ w ∈ s.nbrs v 0, w < v
  entrySome : 0 < s.next → s.entry ≠ none
  entryLt : ∀ ep, s.entry = some ep → ep < s.next
  idsLen : s.ids.length = s.next
  small : s.next ≤ cfg.mMax0 + 1

theorem io_empty (cfg : Cfg) : IO cfg Index.empty := by
  have hnb : ∀ u l, Index.empty.nbrs u l = [] := fun _ _ => rfl
  refine {
    al := ⟨fun v hv => absurd hv (Nat.not_lt_zero _), fun _ _ => rfl⟩
    valid := fun u l w hw => ?_
    l0 := ⟨fun u w hw => ?_, fun u hu => ?_, fun u => ?_⟩
    parent := fun v _ hv => absurd hv (Nat.not_lt_zero _)
    entrySome := fun h => absurd h (Nat.lt_irrefl _)
    entryLt := fun ep h => (nomatch h)
    idsLen := rfl
    small := Nat.zero_le _ }
  · rw [hnb] at hw; cases hw
  · rw [hnb] at hw; cases hw
  · rw [hnb] at hu; cases hu
  · rw [hnb]; exact List.nodup_nil

theorem store_nbrs (s : Index) (id : ItemId) (x : Vertex) (hx : x.edges = fun _ => []) (u : Vid) (l : Nat)
    (hfresh : s.verts s.next = none) :
    (store s id x).1.nbrs u l = s.nbrs u l := by
  by_cases hu : u = s.next
  · subst hu
    simp [store, Index.nbrs, Index.edgesOf, hx, hfresh]
  · simp [store, Index.nbrs, Index.edgesOf, hu]

theorem io_store {s : Index} (h : IO cfg s) (hroom : s.next ≤ cfg.mMax0) (id : ItemId) (x : Vertex)
    (hx : x.edges = fun _ => []) (hd : x.deleted = false) :
    Small cfg (store s id x).1 ∧ (∀ u l, (store s id x).1.nbrs u l = s.nbrs u l) ∧
      ∀ u l, s.next ∉ (store s id x).1.nbrs u l := by
  have hnb : ∀ u l, (store s id x).1.nbrs u l = s.nbrs u l :=
    fun u l => store_nbrs s id x hx u l (h.al.fresh _ (Nat.le_refl _))
  have hlt : ∀ u l w, w ∈ (store s id x).1.nbrs u l → w < s.next := fun u l w hw =>
    h.al.lt_of_live (h.valid u l w (hnb u l ▸ hw))
  refine ⟨{
    al := ⟨fun u hu => ?_, fun u hu => ?_⟩
    valid := fun u l w hw => ?_
    l0 := h.l0.congr (fun u => hnb u 0)
    small := Nat.succ_le_succ hroom }, hnb, fun u l hm => Nat.lt_irrefl _ (hlt u l _ hm)⟩
  · rw [isDeleted_store, hd]
    split
    · rfl
    · rename_i hne
      exact h.al.live u (Nat.lt_of_le_of_ne (Nat.le_of_lt_succ hu) hne)
  · have hu' : s.next < u := hu
    simp only [store, Nat.ne_of_gt hu', if_false]
    exact h.al.fresh u (Nat.le_of_lt hu')
  · rw [isDeleted_store, if_neg (Nat.ne_of_lt (hlt u l w hw))]
    exact h.valid u l w (hnb u l ▸ hw)

theorem io_of_linked {s : Index} (h : IO cfg s) (id : ItemId) (x : Vertex)
    {s2 : Index} (hf : EdgeFrame (store s id x).1 s2) (h2 : Small cfg s2)
    (hkeep : ∀ u w, w ∈ s.nbrs u 0 → w ∈ s2.nbrs u 0)
    (hnew : 0 < s.next → ∃ w ∈ s2.nbrs s.next 0, w ≠ s.next)
    {e : Option Vid} (he : ∃ y, e = some y ∧ y ≤ s.next) :
    IO cfg { s2 with entry := e } ∧ ({ s2 with entry := e } : Index).next = s.next + 1 := by
  have hnext : s2.next = s.next + 1 := hf.next
  obtain ⟨y, rfl, hy⟩ := he
  refine ⟨{
    al := ⟨h2.al.live, h2.al.fresh⟩
    valid := h2.valid
    l0 := ⟨h2.l0.sym, h2.l0.irrefl, h2.l0.nodup⟩
    parent := fun u hu0 hu => ?_
    entrySome := fun _ => nofun
    entryLt := fun z hz => ?_
    idsLen := ?_
    small := h2.small }, hnext⟩
  · show ∃ w ∈ s2.nbrs u 0, w < u
    rcases Nat.lt_succ_iff_lt_or_eq.mp (hnext ▸ hu : u < s.next + 1) with hlt | rfl
    · obtain ⟨w, hw, hwlt⟩ := h.parent u hu0 hlt
      exact ⟨w, hkeep u w hw, hwlt⟩
    · -- the newest vertex: whatever it is linked to is older
      obtain ⟨w, hw, hwne⟩ := hnew hu0
      have : w < s.next + 1 := hnext ▸ h2.al.lt_of_live (h2.valid _ _ _ hw)
      exact ⟨w, hw, Nat.lt_of_le_of_ne (Nat.le_of_lt_succ this) hwne⟩
  · show z < s2.next
    cases hz; exact hnext ▸ Nat.lt_succ_of_le hy
  · show s2.ids.length = s2.next
    rw [hf.ids, hnext]
    show (id :: s.ids).length = s.next + 1
    rw [List.length_cons, h.idsLen]

include hmin hmax in
/-- **C07: one more insert keeps the invariant** while the collection has room (`next ≤ mMax0`): a
level-0 degree is at most `n - 1 ≤ mMax0`, so `prune` never runs at level 0, links stay bidirectional
and each vertex keeps a link to an older one. -/
theorem io_insert (hm : 1 ≤ cfg.m) (hefc : 1 ≤ cfg.efC) (s : Index) (h : IO cfg s) (hroom : s.next ≤ cfg.mMax0)
    (id : ItemId) (vec : VecRef) (md : Meta) (level : Nat) (s' : Index)
    (hins : insert Pmin Pmax dist cfg s id vec md level = .ok s') : IO cfg s' ∧ s'.next = s.next + 1 := by
  obtain ⟨_, ⟨he, rfl⟩ | ⟨ep, he, e, hee, rfl⟩⟩ := insert_eq cfg hins
  · obtain ⟨h1, hnb1, _⟩ := io_store cfg h hroom id (newVertex id vec md 0) rfl rfl
    have hn0 : s.next = 0 := Nat.eq_zero_of_not_pos fun hz => h.entrySome hz he
    exact io_of_linked cfg h id _ (EdgeFrame.refl _) h1 (fun u w hw => by rw [hnb1]; exact hw)
      (fun hz => absurd hn0 (Nat.ne_of_gt hz)) ⟨s.next, rfl, Nat.le_refl _⟩
  · obtain ⟨h1, hnb1, hno⟩ := io_store cfg h hroom id (newVertex id vec md level) rfl rfl
    have heplt := h.entryLt ep he
    have hlive : ∀ u, u ≤ s.next → (store s id (newVertex id vec md level)).1.isDeleted u = false :=
      fun u hu => h1.al.live u (Nat.lt_succ_of_le hu)
    -- the descent ends at an old vertex
    have hcur := descend_closed dist _ vec
      (fun u => (store s id (newVertex id vec md level)).1.isDeleted u = false ∧ u ≠ s.next)
      (fun l u w _ hw hdw => ⟨hdw, fun hws => hno u l (hws ▸ hw)⟩)
      level ((store s id (newVertex id vec md level)).1.levelOf ep - level) ep
      (dist vec ((store s id (newVertex id vec md level)).1.vecOf ep)) ⟨hlive ep (Nat.le_of_lt heplt), Nat.ne_of_lt heplt⟩
    generalize (descend dist _ vec level _ ep _).1 = cur at hcur ⊢
    obtain ⟨h2, vc, vd⟩ := insertLevels_io (dist := dist) cfg hmin hmax hm hefc s.next vec
      (min ((store s id (newVertex id vec md level)).1.levelOf cur) level) _ cur h1
      (hlive _ (Nat.le_refl _)) hcur (fun l _ u => hno u l)
    exact io_of_linked cfg h id _ (insertLevels_frame cfg ..) h2 (fun u w hw => vc u w (by rw [hnb1]; exact hw))
      (fun _ => vd) (hee.elim (fun hs => ⟨_, hs, Nat.le_refl _⟩) fun hp => ⟨ep, hp, Nat.le_of_lt heplt⟩)

end
end Anndb
