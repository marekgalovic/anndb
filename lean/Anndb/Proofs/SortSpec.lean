import Anndb.Model.Exact
/-! # The brute-force ranking is determined by "sorted, a sub-multiset, and dominated by the rest" -/
namespace Anndb.Exact

theorem pairwise_sort (l : List Nat) : (l.mergeSort (fun a b => decide (a ≤ b))).Pairwise (· ≤ ·) := by
  have := List.pairwise_mergeSort (le := fun (a b : Nat) => decide (a ≤ b))
    (fun a b c h1 h2 => decide_eq_true (Nat.le_trans (of_decide_eq_true h1) (of_decide_eq_true h2)))
    (fun a b => by simpa using Nat.le_total a b) l
  exact this.imp of_decide_eq_true

theorem topk_of_best (k : Nat) (row L rest : List Nat) (hs : L.Pairwise (· ≤ ·))
    (hp : row.Perm (L ++ rest)) (hd : ∀ y ∈ L, ∀ x ∈ rest, y ≤ x)
    (hl : L.length = min k row.length) : L = exactTopK k row := by
  unfold exactTopK
  have hT : (L ++ rest.mergeSort (fun a b => decide (a ≤ b))).Pairwise (· ≤ ·) := by
    rw [List.pairwise_append]
    refine ⟨hs, pairwise_sort rest, ?_⟩
    intro y hy x hx
    exact hd y hy x ((List.mergeSort_perm rest _).mem_iff.mp hx)
  have hperm : (row.mergeSort (fun a b => decide (a ≤ b))).Perm (L ++ rest.mergeSort (fun a b => decide (a ≤ b))) :=
    ((List.mergeSort_perm row _).trans hp).trans (List.Perm.append_left L (List.mergeSort_perm rest _).symm)
  rw [hperm.eq_of_pairwise (fun _ _ _ _ => Nat.le_antisymm) (pairwise_sort row) hT]
  have hlen := hp.length_eq
  rw [List.length_append] at hlen
  by_cases hk : k ≤ row.length
  · exact (List.take_left' (hl.trans (Nat.min_eq_left hk))).symm
  · rw [Nat.min_eq_right (Nat.le_of_not_le hk)] at hl
    have : rest = [] := List.eq_nil_of_length_eq_zero (by omega)
    subst this
    simp only [List.mergeSort_nil, List.append_nil]
    exact (List.take_of_length_le (hl ▸ Nat.le_of_not_le hk)).symm

end Anndb.Exact
