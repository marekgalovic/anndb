import Anndb.Proofs.HnswSound
/-!
# `Inv` is preserved by insert and remove (any queue, any configuration, any link order)

`Inv` (I1–I3) speaks only about the entry point, the id map and the tombstones. All
linking work (`addEdge`, `removeEdge`, `setEdges`, `prune`, `linkAll`, `insertLevels`,
`unlinkAll`) changes nothing but link lists; `EdgeFrame` captures that, and what the lists are after
an edge update is stated beside it (`nbrs_setEdges`, `nbrs_addEdge`).
-/
namespace Anndb

/-- `s'` differs from `s` only in link lists -/
structure EdgeFrame (s s' : Index) : Prop where
  live : s'.live = s.live
  ids : s'.ids = s.ids
  entry : s'.entry = s.entry
  next : s'.next = s.next
  verts : ∀ v, ∃ e, s'.verts v = (s.verts v).map fun x => { x with edges := e }

namespace EdgeFrame

theorem refl (s : Index) : EdgeFrame s s :=
  ⟨rfl, rfl, rfl, rfl, fun v => ⟨((s.verts v).map (·.edges)).getD fun _ => [], by cases s.verts v <;> rfl⟩⟩

theorem trans {a b c : Index} (h₁ : EdgeFrame a b) (h₂ : EdgeFrame b c) : EdgeFrame a c := by
  refine ⟨h₂.live.trans h₁.live, h₂.ids.trans h₁.ids, h₂.entry.trans h₁.entry, h₂.next.trans h₁.next, fun v => ?_⟩
  obtain ⟨e₁, he₁⟩ := h₁.verts v
  obtain ⟨e₂, he₂⟩ := h₂.verts v
  exact ⟨e₂, by rw [he₂, he₁, Option.map_map]; rfl⟩

theorem setEntry {s s' : Index} (h : EdgeFrame s s') (e : Option Vid) :
    EdgeFrame { s with entry := e } { s' with entry := e } :=
  ⟨h.live, h.ids, rfl, h.next, h.verts⟩

theorem updVertex (s : Index) (v : Vid) (f : Vertex → Vertex) (hf : ∀ x, ∃ e, f x = { x with edges := e }) :
    EdgeFrame s (s.updVertex v f) := by
  refine ⟨rfl, rfl, rfl, rfl, fun u => ?_⟩
  show ∃ e, (if u = v then (s.verts v).map f else s.verts u) = _
  by_cases hu : u = v
  · subst hu
    rw [if_pos rfl]
    cases s.verts u with
    | none => exact ⟨fun _ => [], rfl⟩
    | some x =>
      obtain ⟨e, he⟩ := hf x
      exact ⟨e, congrArg some he⟩
  · rw [if_neg hu]
    exact (refl s).verts u

theorem addEdge (s : Index) (v : Vid) (l : Nat) (w : Vid) (d : Score) : EdgeFrame s (s.addEdge v l w d) :=
  updVertex s v _ (fun _ => ⟨_, rfl⟩)

theorem removeEdge (s : Index) (v : Vid) (l : Nat) (w : Vid) : EdgeFrame s (s.removeEdge v l w) :=
  updVertex s v _ (fun _ => ⟨_, rfl⟩)

theorem setEdges (s : Index) (v : Vid) (l : Nat) (es : List (Vid × Score)) : EdgeFrame s (s.setEdges v l es) :=
  updVertex s v _ (fun _ => ⟨_, rfl⟩)

theorem isDeleted_eq {s s' : Index} (h : EdgeFrame s s') (v : Vid) : s'.isDeleted v = s.isDeleted v := by
  obtain ⟨e, he⟩ := h.verts v
  unfold Index.isDeleted
  rw [he]
  cases s.verts v <;> rfl

end EdgeFrame

/-! ## the link lists after an edge update -/

theorem edgesOf_setEdges (s : Index) (v : Vid) (l : Nat) (es : List (Vid × Score)) (u : Vid) (l' : Nat) :
    (s.setEdges v l es).edgesOf u l' =
      if u = v ∧ l' = l ∧ s.verts v ≠ none then es else s.edgesOf u l' := by
  by_cases hu : u = v
  · subst hu
    by_cases hl : l' = l <;> cases hx : s.verts u <;>
      simp [Index.edgesOf, Index.setEdges, Index.updVertex, hx, hl]
  · simp [Index.edgesOf, Index.setEdges, Index.updVertex, hu]

theorem nbrs_setEdges (s : Index) (v : Vid) (l : Nat) (es : List (Vid × Score)) (u : Vid) (l' : Nat) :
    (s.setEdges v l es).nbrs u l' =
      if u = v ∧ l' = l ∧ s.verts v ≠ none then es.map (·.1) else s.nbrs u l' := by
  simp only [Index.nbrs, edgesOf_setEdges]
  split <;> rfl

/-- the Go map assignment `edges[l][w] = d`, seen as a replacement of the whole list -/
theorem addEdge_eq_setEdges (s : Index) (v : Vid) (l : Nat) (w : Vid) (d : Score) :
    s.addEdge v l w d = s.setEdges v l ((w, d) :: (s.edgesOf v l).filter (·.1 ≠ w)) := by
  unfold Index.addEdge Index.setEdges Index.updVertex Index.edgesOf
  cases s.verts v <;> rfl

theorem nbrs_addEdge (s : Index) (v : Vid) (l : Nat) (w : Vid) (d : Score) (u : Vid) (l' : Nat) :
    (s.addEdge v l w d).nbrs u l' =
      if u = v ∧ l' = l ∧ s.verts v ≠ none then w :: (s.nbrs v l).filter (· ≠ w) else s.nbrs u l' := by
  rw [addEdge_eq_setEdges, nbrs_setEdges]
  simp [Index.nbrs, List.filter_map, Function.comp_def]

theorem mem_nbrs_addEdge {s : Index} {v : Vid} (hv : s.verts v ≠ none) (l : Nat) (w : Vid) (d : Score)
    (u : Vid) (l' : Nat) (x : Vid) :
    x ∈ (s.addEdge v l w d).nbrs u l' ↔ (u = v ∧ l' = l ∧ x = w) ∨ x ∈ s.nbrs u l' := by
  rw [nbrs_addEdge]
  split
  · rename_i h
    obtain ⟨rfl, rfl, _⟩ := h
    by_cases hx : x = w <;> simp [hx, List.mem_filter]
  · rename_i h
    exact ⟨Or.inr, fun hx => hx.resolve_left fun ⟨h1, h2, _⟩ => h ⟨h1, h2, hv⟩⟩

theorem nodup_nbrs_addEdge {s : Index} {v u : Vid} {l l' : Nat} {w : Vid} {d : Score}
    (h : (s.nbrs u l').Nodup) : ((s.addEdge v l w d).nbrs u l').Nodup := by
  rw [nbrs_addEdge]
  split
  · rename_i hc
    obtain ⟨rfl, rfl, _⟩ := hc
    exact List.nodup_cons.mpr ⟨by simp [List.mem_filter], List.filter_sublist.nodup h⟩
  · exact h

theorem Inv.of_frame {s s' : Index} (hi : Inv s) (h : EdgeFrame s s') : Inv s' := by
  refine ⟨fun he i => h.live ▸ hi.entryNone (h.entry ▸ he) i,
    fun v hv => h.isDeleted_eq v ▸ hi.entryLive v (h.entry ▸ hv), ?_⟩
  intro v x' hx'
  obtain ⟨e, he⟩ := h.verts v
  rw [he] at hx'
  obtain ⟨x, hx, rfl⟩ := Option.map_eq_some_iff.mp hx'
  rw [h.live]
  exact hi.liveIff v x hx

theorem reload_frame (s : Index) : EdgeFrame s s.reload := by
  refine ⟨rfl, rfl, rfl, rfl, fun v => ?_⟩
  show ∃ e, (s.verts v).map _ = _
  cases s.verts v with
  | none => exact ⟨fun _ => [], rfl⟩
  | some x => exact ⟨_, rfl⟩

section
variable {Pmin Pmax : PQImpl} {dist : VecRef → VecRef → Score} (cfg : Cfg)

theorem prune_frame (s : Index) (v : Vid) (k level : Nat) :
    EdgeFrame s (prune Pmin Pmax dist cfg s v k level) := by
  unfold prune
  exact EdgeFrame.setEdges _ _ _ _

theorem linkAll_frame (v : Vid) (l : Nat) (its : List Item) (s : Index) (cur : Vid) :
    EdgeFrame s (linkAll Pmin Pmax dist cfg v l its s cur).1 := by
  fun_induction linkAll Pmin Pmax dist cfg v l its s cur with
  | case1 s cur => exact .refl s
  | case2 it rest s _ s1 s2 s3 ih =>
    -- `s1`, `s2`: the states after the two `addEdge`s; `s3`: after the `prune` that may follow
    refine .trans ?_ ih
    have f2 := (EdgeFrame.addEdge s v l it.vid it.score).trans (EdgeFrame.addEdge s1 it.vid l v it.score)
    simp only [s3]
    split
    · exact f2.trans (prune_frame cfg _ _ _ _)
    · exact f2

theorem insertLevels_frame (v : Vid) (q : VecRef) (top : Nat) (s : Index) (cur : Vid) :
    EdgeFrame s (insertLevels Pmin Pmax dist cfg v q top s cur) := by
  fun_induction insertLevels Pmin Pmax dist cfg v q top s cur with
  | case1 s cur n sel => exact linkAll_frame cfg v 0 _ s cur
  | case2 l s cur n sel s' cur' h ih => exact (h ▸ linkAll_frame cfg v (l+1) _ s cur).trans ih

theorem unlinkLevel_frame (v : Vid) (l : Nat) (ns : List Vid) (s : Index) :
    EdgeFrame s (unlinkLevel Pmin Pmax dist cfg v l ns s) := by
  fun_induction unlinkLevel Pmin Pmax dist cfg v l ns s with
  | case1 s => exact .refl s
  | case2 n rest s s1 s2 ih => exact ((EdgeFrame.removeEdge s n l v).trans (prune_frame cfg _ _ _ _)).trans ih

theorem unlinkAll_frame (v : Vid) (n : Nat) (s : Index) :
    EdgeFrame s (unlinkAll Pmin Pmax dist cfg v n s) := by
  fun_induction unlinkAll Pmin Pmax dist cfg v n s with
  | case1 s => exact .refl s
  | case2 l s ih => exact (unlinkLevel_frame cfg v l _ s).trans ih

/-- allocation discipline: nothing is allocated at or beyond `next`; `ids` lists exactly the live ids -/
structure Alloc (s : Index) : Prop where
  fresh : ∀ v, s.next ≤ v → s.verts v = none
  liveAlloc : ∀ i v, s.live i = some v → ∃ x, s.verts v = some x ∧ x.id = i
  idsLive : ∀ i, i ∈ s.ids ↔ s.live i ≠ none

theorem Alloc.of_frame {s s' : Index} (ha : Alloc s) (h : EdgeFrame s s') : Alloc s' := by
  refine ⟨fun v hv => ?_, fun i v hl => ?_, fun i => by rw [h.ids, h.live]; exact ha.idsLive i⟩
  · obtain ⟨e, he⟩ := h.verts v
    rw [he, ha.fresh v (h.next ▸ hv)]; rfl
  · obtain ⟨x, hx, hid⟩ := ha.liveAlloc i v (h.live ▸ hl)
    obtain ⟨e, he⟩ := h.verts v
    exact ⟨{ x with edges := e }, by rw [he, hx]; rfl, hid⟩

theorem inv_empty : Inv Index.empty ∧ Alloc Index.empty :=
  ⟨⟨fun _ _ => rfl, nofun, nofun⟩, fun _ _ => rfl, nofun, fun i => by simp [Index.empty]⟩

theorem Inv.entry_none_iff {s : Index} (hi : Inv s) (ha : Alloc s) : s.entry = none ↔ s.ids = [] := by
  refine ⟨fun he => List.eq_nil_iff_forall_not_mem.mpr fun i hm => (ha.idsLive i).mp hm (hi.entryNone he i),
    fun hn => ?_⟩
  cases he : s.entry with
  | none => rfl
  | some v =>
    -- the entry point is the live incarnation of its id, which is therefore listed
    obtain ⟨x, hx, hxd⟩ := isDeleted_eq_false_iff.mp (hi.entryLive v he)
    have := (ha.idsLive x.id).mpr (by rw [(hi.liveIff v x hx).mp hxd]; nofun)
    rw [hn] at this; cases this

theorem isDeleted_congr {s s2 : Index} (h : s2.verts = s.verts) (u : Vid) : s2.isDeleted u = s.isDeleted u := by
  simp [Index.isDeleted, h]

theorem isDeleted_of_verts {s s' : Index} {v : Vid} {x : Vertex}
    (h : ∀ u, s'.verts u = if u = v then some x else s.verts u) (u : Vid) :
    s'.isDeleted u = if u = v then x.deleted else s.isDeleted u := by
  unfold Index.isDeleted
  rw [h]
  by_cases hu : u = v <;> simp only [hu, ↓reduceIte]

/-- `s'` is `s` with one id rebound. Vertex `v` — the id's new incarnation, or the one being retired —
becomes `x`, and the id's cell of the live table points to `v` exactly if `x` is not tombstoned.
`store` and `tombstone` are the two instances; the entry point is left out of it. -/
structure Rebind (s s' : Index) (id : ItemId) (v : Vid) (x : Vertex) : Prop where
  verts : ∀ u, s'.verts u = if u = v then some x else s.verts u
  live : ∀ i, s'.live i = if i = id then (if x.deleted then none else some v) else s.live i
  ids : ∀ i, i ∈ s'.ids ↔ if i = id then x.deleted = false else i ∈ s.ids
  next : s.next ≤ s'.next ∧ v < s'.next
  xid : x.id = id
  /-- before the step `v` is the incarnation of `id` or of no id, and `id` has no other -/
  own : ∀ i u, s.live i = some u → (i = id ↔ u = v)

namespace Rebind
variable {s s' : Index} {id : ItemId} {v : Vid} {x : Vertex}

theorem setEntry (r : Rebind s s' id v x) (e : Option Vid) : Rebind s { s' with entry := e } id v x :=
  ⟨r.verts, r.live, r.ids, r.next, r.xid, r.own⟩

theorem isDeleted (r : Rebind s s' id v x) (u : Vid) :
    s'.isDeleted u = if u = v then x.deleted else s.isDeleted u :=
  isDeleted_of_verts r.verts u

theorem liveIff (r : Rebind s s' id v x) (hi : Inv s) :
    ∀ u y, s'.verts u = some y → (y.deleted = false ↔ s'.live y.id = some u) := by
  intro u y hy
  rw [r.verts] at hy
  rw [r.live]
  split at hy
  · rename_i huv
    cases hy
    rw [if_pos r.xid, huv]
    cases x.deleted <;> simp
  · rename_i huv
    by_cases hyid : y.id = id
    · -- another vertex of the same id: tombstoned before and after
      have hnot : ¬ s.live y.id = some u := fun hl => huv ((r.own _ u hl).mp hyid)
      rw [if_pos hyid, hi.liveIff u y hy]
      refine ⟨fun hl => absurd hl hnot, fun hl => ?_⟩
      split at hl
      · cases hl
      · exact absurd (Option.some.inj hl).symm huv
    · rw [if_neg hyid]
      exact hi.liveIff u y hy

theorem alloc (r : Rebind s s' id v x) (ha : Alloc s) : Alloc s' := by
  refine ⟨fun u hu => ?_, fun i u hl => ?_, fun i => ?_⟩
  · rw [r.verts, if_neg (Nat.ne_of_gt (Nat.lt_of_lt_of_le r.next.2 hu))]
    exact ha.fresh u (Nat.le_trans r.next.1 hu)
  · rw [r.live] at hl
    rw [r.verts]
    split at hl
    · rename_i hi
      split at hl
      · cases hl
      · cases hl
        exact ⟨x, if_pos rfl, r.xid.trans hi.symm⟩
    · rename_i hi
      rw [if_neg (fun e => hi ((r.own i u hl).mpr e))]
      exact ha.liveAlloc i u hl
  · rw [r.ids, r.live]
    split
    · cases x.deleted <;> simp
    · exact ha.idsLive i

end Rebind

/-- `Rebind.isDeleted` at `store`, without the hypotheses of `store_rebind` (`Alloc s`, a fresh id) -/
theorem isDeleted_store (s : Index) (id : ItemId) (x : Vertex) (u : Vid) :
    (store s id x).1.isDeleted u = if u = s.next then x.deleted else s.isDeleted u :=
  isDeleted_of_verts (fun _ => rfl) u

theorem store_rebind {s : Index} (id : ItemId) (x : Vertex) (ha : Alloc s) (hx : x.id = id)
    (hd : x.deleted = false) (hnew : s.live id = none) : Rebind s (store s id x).1 id s.next x where
  verts _ := rfl
  live i := by simp [store, hd]
  ids i := by by_cases h : i = id <;> simp [store, hd, h]
  next := ⟨Nat.le_succ _, Nat.lt_succ_self _⟩
  xid := hx
  own i u hl := by
    constructor
    · rintro rfl
      rw [hnew] at hl; cases hl
    · rintro rfl
      obtain ⟨y, hy, _⟩ := ha.liveAlloc i _ hl
      rw [ha.fresh _ (Nat.le_refl _)] at hy; cases hy

theorem tombstone_rebind {s : Index} {id : ItemId} {v : Vid} {x : Vertex} (ha : Alloc s)
    (hl : s.live id = some v) (hx : s.verts v = some x) (hxid : x.id = id) :
    Rebind s (tombstone s id v) id v { x with deleted := true } where
  verts u := by simp only [tombstone, Index.updVertex, hx]; rfl
  live _ := rfl
  ids i := by by_cases h : i = id <;> simp [tombstone, Index.updVertex, h]
  next := by
    refine ⟨Nat.le_refl _, Nat.lt_of_not_le fun hle => ?_⟩
    rw [ha.fresh v hle] at hx; cases hx
  xid := hxid
  own i u hlu := by
    constructor
    · rintro rfl
      rw [hl] at hlu; exact (Option.some.inj hlu).symm
    · rintro rfl
      obtain ⟨y, hy, hyi⟩ := ha.liveAlloc i u hlu
      rw [hx] at hy; cases hy
      exact hyi.symm.trans hxid

/-- the unfolding of a successful `insert`: used where the links themselves matter (`io_insert`) -/
theorem insert_eq {s s' : Index} {id : ItemId} {vec : VecRef} {md : Meta} {level : Nat}
    (h : insert Pmin Pmax dist cfg s id vec md level = .ok s') :
    s.live id = none ∧
    ((s.entry = none ∧ s' = { (store s id (newVertex id vec md 0)).1 with entry := some s.next }) ∨
     ∃ ep, s.entry = some ep ∧
      let s1 := (store s id (newVertex id vec md level)).1
      let cur := (descend dist s1 vec level (s1.levelOf ep - level) ep (dist vec (s1.vecOf ep))).1
      ∃ e, (e = some s.next ∨ e = some ep) ∧
        s' = { insertLevels Pmin Pmax dist cfg s.next vec (min (s1.levelOf cur) level) s1 cur with entry := e }) := by
  unfold insert at h
  cases hl : s.live id with
  | some v => simp [hl] at h
  | none =>
    refine ⟨rfl, ?_⟩
    cases he : s.entry with
    | none =>
      simp only [hl, he, Except.ok.injEq] at h
      exact Or.inl ⟨rfl, h.symm⟩
    | some ep =>
      simp only [hl, he, Except.ok.injEq] at h
      refine Or.inr ⟨ep, rfl, ?_⟩
      intro s1 cur
      split at h
      · exact ⟨_, Or.inl rfl, h.symm⟩
      · -- linking leaves the entry point alone
        have fr := insertLevels_frame (Pmin := Pmin) (Pmax := Pmax) (dist := dist) cfg s.next vec
          (min (s1.levelOf cur) level) s1 cur
        exact ⟨_, Or.inr (fr.entry.trans he), h.symm⟩

/-- the same as `store` + an entry point + an `EdgeFrame`: all that `Inv` and `absI` (HnswEffect) can see -/
theorem insert_ok {s s' : Index} {id : ItemId} {vec : VecRef} {md : Meta} {level : Nat}
    (h : insert Pmin Pmax dist cfg s id vec md level = .ok s') :
    s.live id = none ∧ ∃ e, (e = some s.next ∨ (e = s.entry ∧ s.entry ≠ none)) ∧
      EdgeFrame { (store s id (newVertex id vec md (if s.entry = none then 0 else level))).1 with entry := e } s' := by
  obtain ⟨hl, ⟨he, rfl⟩ | ⟨ep, he, e, hee, rfl⟩⟩ := insert_eq cfg h
  · exact ⟨hl, _, Or.inl rfl, by rw [if_pos he]; exact EdgeFrame.refl _⟩
  · refine ⟨hl, e, ?_, ?_⟩
    · rw [he]; exact hee.imp_right fun h => ⟨h, nofun⟩
    · rw [if_neg (by simp [he])]; exact (insertLevels_frame cfg _ _ _ _ _).setEntry e

/-- C01: `insert` preserves the invariant (I1–I3 of `Inv`) and the allocation discipline. -/
theorem inv_insert (s : Index) (id : ItemId) (vec : VecRef) (md : Meta) (level : Nat)
    (hi : Inv s) (ha : Alloc s) (s' : Index)
    (h : insert Pmin Pmax dist cfg s id vec md level = .ok s') : Inv s' ∧ Alloc s' := by
  obtain ⟨hl, e, he, fr⟩ := insert_ok cfg h
  have r := (store_rebind id (newVertex id vec md (if s.entry = none then 0 else level)) ha rfl rfl hl).setEntry e
  refine ⟨Inv.of_frame ⟨?_, ?_, r.liveIff hi⟩ fr, (r.alloc ha).of_frame fr⟩
  · rintro rfl
    rcases he with he | ⟨he, hne⟩
    · cases he
    · exact absurd he.symm hne
  · intro u hu
    rw [r.isDeleted]
    split
    · rfl
    · rename_i hne
      rcases he with he | ⟨he, _⟩
      · exact absurd (Option.some.inj (hu.symm.trans he)) hne
      · exact hi.entryLive u (he ▸ hu)

/-- a well-behaved resolver of the residual choice in the repaired hand-over -/
def PickOK (pick : List ItemId → Option ItemId) : Prop :=
  (∀ l i, pick l = some i → i ∈ l) ∧ (∀ l, pick l = none → l = [])

theorem pickOK_head? : PickOK List.head? :=
  ⟨fun _ _ h => List.mem_of_mem_head? h, fun _ h => List.head?_eq_none_iff.mp h⟩

theorem closestLive_some (s : Index) (v : Vid) (l : Nat) (e : Vid × Score)
    (h : closestLive s v l = some e) : s.isDeleted e.1 = false := by
  refine List.foldlRecOn (motive := fun acc => ∀ b, acc = some b → s.isDeleted b.1 = false)
    (s.edgesOf v l) _ (b := none) (fun _ hb => nomatch hb) ?_ e h
  intro acc hacc e' _
  split
  · exact hacc
  · rename_i hd
    have hd := (Bool.not_eq_true _).mp hd
    split
    · intro b hb; cases hb; exact hd
    · split
      · intro b hb; cases hb; exact hd
      · exact hacc

theorem handOver_some (s : Index) (v : Vid) (n : Nat) (w : Vid) (h : handOver s v n = some w) :
    s.isDeleted w = false := by
  fun_induction handOver s v n with
  | case1 => cases h
  | case2 l e he => cases h; exact closestLive_some s v l e he
  | case3 l he ih => exact ih h

theorem handEntry_eq (t : Index) (v : Vid) (pick : List ItemId → Option ItemId) :
    handEntry t v pick = { t with entry := (handEntry t v pick).entry } := by
  fun_cases handEntry t v pick <;> rfl

/-- `t` is the state right after `tombstone`, which does not satisfy `Inv` while `v` is still its
entry point: hence I1 and I3 as plain hypotheses, and I2 only for an entry point other than `v` -/
theorem handEntry_entry {t : Index} (v : Vid) {pick : List ItemId → Option ItemId} (hp : PickOK pick)
    (ha : Alloc t) (h3 : ∀ u y, t.verts u = some y → (y.deleted = false ↔ t.live y.id = some u))
    (hn : t.entry = none → ∀ i, t.live i = none)
    (hs : ∀ u, t.entry = some u → u ≠ v → t.isDeleted u = false) :
    ((handEntry t v pick).entry = none → ∀ i, t.live i = none) ∧
      ∀ u, (handEntry t v pick).entry = some u → t.isDeleted u = false := by
  fun_cases handEntry t v pick
  case case1 w hw => exact ⟨nofun, fun u hu => Option.some.inj hu ▸ handOver_some t v _ w hw⟩
  case case2 i hpi =>
    refine ⟨fun he => absurd he ((ha.idsLive i).mp (hp.1 _ _ hpi)), fun u hu => ?_⟩
    obtain ⟨y, hy, hyid⟩ := ha.liveAlloc i u hu
    simp [Index.isDeleted, hy, (h3 u y hy).mpr (hyid ▸ hu)]
  case case3 hpn =>
    refine ⟨fun _ i => ?_, nofun⟩
    cases hli : t.live i with
    | none => rfl
    | some u =>
      have := (ha.idsLive i).mpr (by simp [hli])
      rw [hp.2 _ hpn] at this; cases this
  case case4 hev => exact ⟨hn, fun u hu => hs u hu (fun e => hev (e ▸ hu))⟩

theorem remove_ok {s s' : Index} {id : ItemId} {pick : List ItemId → Option ItemId}
    (h : remove Pmin Pmax dist cfg s id pick = .ok s') :
    ∃ v, s.live id = some v ∧ EdgeFrame (handEntry (tombstone s id v) v pick) s' := by
  unfold remove at h
  split at h
  · cases h
  · rename_i v hl
    cases h
    exact ⟨v, hl, unlinkAll_frame cfg v _ _⟩

/-- C01: `remove` (with the repaired hand-over) preserves the invariant (I1–I3 of `Inv`). -/
theorem inv_remove (s : Index) (id : ItemId) (pick : List ItemId → Option ItemId) (hp : PickOK pick)
    (hi : Inv s) (ha : Alloc s) (s' : Index)
    (h : remove Pmin Pmax dist cfg s id pick = .ok s') : Inv s' ∧ Alloc s' := by
  obtain ⟨v, hl, fr⟩ := remove_ok cfg h
  obtain ⟨x, hx, hxid⟩ := ha.liveAlloc id v hl
  have r := tombstone_rebind ha hl hx hxid
  obtain ⟨hnone, hsome⟩ := handEntry_entry v hp (r.alloc ha) (r.liveIff hi)
    (fun hn i => by
      rw [r.live]
      split
      · rfl
      · exact hi.entryNone hn i)
    (fun u hu hne => by rw [r.isDeleted, if_neg hne]; exact hi.entryLive u hu)
  rw [handEntry_eq] at fr
  have hI : Inv { tombstone s id v with entry := _ } := ⟨hnone, hsome, r.liveIff hi⟩
  exact ⟨hI.of_frame fr, ((r.setEntry _).alloc ha).of_frame fr⟩

end
end Anndb
