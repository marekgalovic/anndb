import Anndb.Proofs.SimdExact
/-!
# The kernels under rounding (C15): the standard model of floating-point arithmetic

`SimdExact` shows that in exact arithmetic the AVX, SSE and portable kernels are one function.
Here every operation is followed by a rounding `fl` about which only the *standard model* is
assumed: `|fl x - x| ≤ u * |x|` (for float32 with round-to-nearest `u = 2⁻²⁴`, valid as long as no
operation overflows or underflows). The same lane-faithful definitions (`Model/Simd.lean`),
instantiated at `roundedOps fl`, are then shown to stay within a relative error
`(1+u)^(n+c) - 1` of the exact sum, for every length, both lane widths and the sequential kernel:
"agree up to floating-point rounding" as a theorem.

`Err k x' x m` says: `x'` is an approximation of `x` that went through at most `k` roundings, on
the scale `m ≥ |x|`:  `|x' - x| ≤ ((1+u)^k - 1) * m`.

The argument has two independent halves. Every building block of a kernel (`zipWith`, `addLanes`,
`lanes`, `hsum`, `foldl`) carries `Err` from its inputs to its output, the value *and the scale*
going through the same block in exact arithmetic: `blocked_err`, which holds for every positive
lane width and uses the lengths only to count the roundings. And the exact kernel is the plain sum
(`blocked_eq_sum`), which turns both the value and the scale into sums.
-/
namespace Anndb.Simd
-- `gam_succ`, `gam_add` and four lemmas on `ErrL` use no order instance of the section; they keep its
-- common signature instead of an `omit` each
set_option linter.unusedSectionVars false

section
variable {α : Type} [Field α] [LinearOrder α] [IsStrictOrderedRing α]

/-- each arithmetic operation is the exact one followed by `fl`; `abs` is exact (sign bit) -/
def roundedOps (fl : α → α) (sqrt : α → α) : Ops α :=
  ⟨0, 1, fun x y => fl (x + y), fun x y => fl (x - y), fun x y => fl (x * y), fun x y => fl (x / y),
   fun x => fl (sqrt x), fun x => |x|⟩

structure StdModel (fl : α → α) (u : α) : Prop where
  u_nonneg : 0 ≤ u
  err : ∀ x, |fl x - x| ≤ u * |x|

def gam (u : α) (k : Nat) : α := (1 + u) ^ k - 1

theorem gam_mono {u : α} (hu : 0 ≤ u) {j k : Nat} (h : j ≤ k) : gam u j ≤ gam u k :=
  sub_le_sub_right (pow_le_pow_right₀ (le_add_of_nonneg_right hu) h) 1

theorem gam_nonneg {u : α} (hu : 0 ≤ u) (k : Nat) : 0 ≤ gam u k := by
  have := gam_mono hu (Nat.zero_le k)
  rwa [gam, pow_zero, sub_self] at this

theorem gam_succ (u : α) (k : Nat) : gam u (k + 1) = gam u k + u + u * gam u k := by
  unfold gam; ring

theorem gam_add (u : α) (j k : Nat) : gam u (j + k) = gam u j + gam u k + gam u j * gam u k := by
  unfold gam; rw [pow_add]; ring

theorem gam_le_linear {u : α} (hu : 0 ≤ u) (k : Nat) (hk : 2 * (k * u) ≤ 1) : gam u k ≤ 2 * (k * u) := by
  induction k with
  | zero => simp [gam]
  | succ k ih =>
    rw [Nat.cast_succ, add_one_mul] at hk ⊢
    have hk' : 2 * (k * u) ≤ 1 :=
      (mul_le_mul_of_nonneg_left (le_add_of_nonneg_right hu) zero_le_two).trans hk
    have ih := ih hk'
    -- one more factor `1+u` adds `u (1 + gam k) ≤ 2u`, since `gam k ≤ 2 k u ≤ 1`
    calc gam u (k + 1) = gam u k + (u + u * gam u k) := by rw [gam_succ, add_assoc]
      _ ≤ 2 * (k * u) + (u + u * 1) :=
        add_le_add ih (add_le_add le_rfl (mul_le_mul_of_nonneg_left (ih.trans hk') hu))
      _ = 2 * (k * u + u) := by ring

/-- This and `abs_mul_le_of_le` are stated over the ordered field itself because Mathlib's
`abs_add_le`, `add_le_add`, `mul_le_mul` live in the weakest classes that have them, and finding
those from `α`'s instances costs, at every use, several times the rest of a proof here. -/
theorem abs_add_le_of_le {a b ma mb : α} (ha : |a| ≤ ma) (hb : |b| ≤ mb) : |a + b| ≤ ma + mb :=
  (abs_add_le a b).trans (add_le_add ha hb)

theorem abs_mul_le_of_le {a b ma mb : α} (ha : |a| ≤ ma) (hb : |b| ≤ mb) : |a * b| ≤ ma * mb :=
  (abs_mul a b).trans_le (mul_le_mul ha hb (abs_nonneg b) ((abs_nonneg a).trans ha))

def Err (u : α) (k : Nat) (x' x m : α) : Prop := |x' - x| ≤ gam u k * m ∧ |x| ≤ m

theorem Err.exact (u : α) (x : α) : Err u 0 x x |x| := by
  constructor
  · simp [gam]
  · exact le_refl _

theorem Err.zero (u : α) (k : Nat) : Err u k (0 : α) 0 0 := by
  constructor <;> simp

theorem Err.scale_nonneg {u : α} {k : Nat} {x' x m : α} (h : Err u k x' x m) : 0 ≤ m :=
  le_trans (abs_nonneg x) h.2

theorem Err.mono {u : α} (hu : 0 ≤ u) {j k : Nat} (hjk : j ≤ k) {x' x m : α} (h : Err u j x' x m) :
    Err u k x' x m := by
  refine ⟨le_trans h.1 ?_, h.2⟩
  exact mul_le_mul_of_nonneg_right (gam_mono hu hjk) h.scale_nonneg

theorem Err.widen {u : α} (hu : 0 ≤ u) {k : Nat} {x' x m m' : α} (h : Err u k x' x m) (hm : m ≤ m') :
    Err u k x' x m' := by
  refine ⟨le_trans h.1 ?_, le_trans h.2 hm⟩
  exact mul_le_mul_of_nonneg_left hm (gam_nonneg hu k)

theorem Err.abs_le {u : α} {k : Nat} {x' x m : α} (h : Err u k x' x m) : |x'| ≤ m + gam u k * m := by
  have := abs_add_le_of_le h.2 h.1
  rwa [add_sub_cancel] at this

theorem Err.fl {fl : α → α} {u : α} (M : StdModel fl u) {k : Nat} {x' x m : α} (h : Err u k x' x m) :
    Err u (k + 1) (fl x') x m :=
  ⟨calc |fl x' - x| = |fl x' - x' + (x' - x)| := by rw [sub_add_sub_cancel]
    _ ≤ u * (m + gam u k * m) + gam u k * m :=
      abs_add_le_of_le ((M.err x').trans (mul_le_mul_of_nonneg_left h.abs_le M.u_nonneg)) h.1
    _ = gam u (k + 1) * m := by rw [gam_succ]; ring, h.2⟩

theorem Err.add {u : α} {k : Nat} {x' x mx y' y my : α} (hx : Err u k x' x mx) (hy : Err u k y' y my) :
    Err u k (x' + y') (x + y) (mx + my) :=
  ⟨calc |x' + y' - (x + y)| = |x' - x + (y' - y)| := by rw [add_sub_add_comm]
    _ ≤ gam u k * mx + gam u k * my := abs_add_le_of_le hx.1 hy.1
    _ = gam u k * (mx + my) := (mul_add _ _ _).symm,
   abs_add_le_of_le hx.2 hy.2⟩

theorem Err.add_fl {fl : α → α} {u : α} (M : StdModel fl u) {k : Nat} {x' x mx y' y my : α}
    (hx : Err u k x' x mx) (hy : Err u k y' y my) : Err u (k + 1) (fl (x' + y')) (x + y) (mx + my) :=
  (hx.add hy).fl M

theorem Err.abs {u : α} {k : Nat} {x' x m : α} (h : Err u k x' x m) : Err u k |x'| |x| m :=
  ⟨le_trans (abs_abs_sub_abs_le_abs_sub x' x) h.1, by rw [abs_abs]; exact h.2⟩

theorem Err.mul {u : α} {j k : Nat} {x' x mx y' y my : α}
    (hx : Err u j x' x mx) (hy : Err u k y' y my) :
    Err u (j + k) (x' * y') (x * y) (mx * my) :=
  ⟨calc |x' * y' - x * y| = |(x' - x) * y' + x * (y' - y)| := by rw [sub_mul, mul_sub, sub_add_sub_cancel]
    _ ≤ gam u j * mx * (my + gam u k * my) + mx * (gam u k * my) :=
      abs_add_le_of_le (abs_mul_le_of_le hx.1 hy.abs_le) (abs_mul_le_of_le hx.2 hy.1)
    _ = gam u (j + k) * (mx * my) := by rw [gam_add]; ring,
   abs_mul_le_of_le hx.2 hy.2⟩

theorem Err.dist {u : α} {k : Nat} {x' y' x m : α} (hx : Err u k x' x m) (hy : Err u k y' x m) :
    |x' - y'| ≤ 2 * (gam u k * m) :=
  calc |x' - y'| = |x' - x + (x - y')| := by rw [sub_add_sub_cancel]
    _ ≤ gam u k * m + gam u k * m := abs_add_le_of_le hx.1 ((abs_sub_comm _ _).trans_le hy.1)
    _ = 2 * (gam u k * m) := (two_mul _).symm

theorem Err.dist_linear {u : α} (hu : 0 ≤ u) {k : Nat} (hk : 2 * (k * u) ≤ 1) {x' y' x m : α}
    (hx : Err u k x' x m) (hy : Err u k y' x m) : |x' - y'| ≤ 4 * (k * u) * m :=
  calc |x' - y'| ≤ 2 * (gam u k * m) := hx.dist hy
    _ ≤ 2 * (2 * (k * u) * m) := mul_le_mul_of_nonneg_left
      (mul_le_mul_of_nonneg_right (gam_le_linear hu k hk) hx.scale_nonneg) zero_le_two
    _ = 4 * (k * u) * m := by ring

/-! ### sums -/

variable (fl : α → α) (u : α) (sq : α → α)

local notation "R" => roundedOps fl sq
local notation "E" => exactOps α sq (fun x => |x|)

/-- `Err`, element by element, with the same `k` -/
inductive ErrL (u : α) (k : Nat) : List α → List α → List α → Prop
  | nil : ErrL u k [] [] []
  | cons {x' x m : α} {xs' xs ms : List α} : Err u k x' x m → ErrL u k xs' xs ms → ErrL u k (x' :: xs') (x :: xs) (m :: ms)

theorem ErrL.length {k : Nat} : ∀ {xs' xs ms : List α}, ErrL u k xs' xs ms → xs'.length = xs.length ∧ ms.length = xs.length := by
  intro _ _ _ h
  induction h with
  | nil => exact ⟨rfl, rfl⟩
  | cons _ _ ih => exact ⟨congrArg (· + 1) ih.1, congrArg (· + 1) ih.2⟩

variable {fl u}

theorem ErrL.mono (hu : 0 ≤ u) {j k : Nat} (hjk : j ≤ k) {xs' xs ms : List α} (h : ErrL u j xs' xs ms) :
    ErrL u k xs' xs ms := by
  induction h with
  | nil => exact .nil
  | cons h _ ih => exact .cons (h.mono hu hjk) ih

theorem ErrL.take {k : Nat} (n : Nat) : ∀ {xs' xs ms : List α}, ErrL u k xs' xs ms → ErrL u k (xs'.take n) (xs.take n) (ms.take n) := by
  induction n with
  | zero => intro _ _ _ _; simpa using ErrL.nil
  | succ n ih =>
    intro xs' xs ms h
    cases h with
    | nil => simpa using ErrL.nil
    | cons h t => simpa using ErrL.cons h (ih t)

theorem ErrL.drop {k : Nat} (n : Nat) : ∀ {xs' xs ms : List α}, ErrL u k xs' xs ms → ErrL u k (xs'.drop n) (xs.drop n) (ms.drop n) := by
  induction n with
  | zero => intro _ _ _ h; simpa using h
  | succ n ih =>
    intro xs' xs ms h
    cases h with
    | nil => simpa using ErrL.nil
    | cons h t => simpa using ih t

theorem ErrL.getD {k : Nat} {xs' xs ms : List α} (h : ErrL u k xs' xs ms) (i : Nat) :
    Err u k (xs'.getD i 0) (xs.getD i 0) (ms.getD i 0) := by
  induction h generalizing i with
  | nil => exact Err.zero u k
  | cons h _ ih => cases i with
    | zero => exact h
    | succ i => exact ih i

theorem ErrL.replicate_zero (k w : Nat) : ErrL u k (List.replicate w (0 : α)) (List.replicate w 0) (List.replicate w 0) := by
  induction w with
  | zero => exact .nil
  | succ w ih => exact .cons (Err.zero u k) ih

theorem ErrL.zipWith {k : Nat} {f' f g : α → α → α} (h : ∀ x y, Err u k (f' x y) (f x y) (g x y)) :
    ∀ (a b : List α), ErrL u k (List.zipWith f' a b) (List.zipWith f a b) (List.zipWith g a b)
  | [], _ => by simpa using ErrL.nil
  | _ :: _, [] => by simpa using ErrL.nil
  | x :: a, y :: b => by simpa using ErrL.cons (h x y) (ErrL.zipWith h a b)

theorem foldl_err (M : StdModel fl u) {k : Nat} {ts' ts ms : List α} {i' i mi : α}
    (ht : ErrL u k ts' ts ms) (hi : Err u k i' i mi) :
    Err u (k + ts.length) (ts'.foldl (R).add i') (ts.foldl (E).add i) (ms.foldl (E).add mi) := by
  induction ts generalizing k ts' ms i' i mi with
  | nil => cases ht; exact hi
  | cons _ _ ih =>
    cases ht with
    | cons h t =>
      have := ih (t.mono M.u_nonneg (Nat.le_add_right k 1)) (hi.add_fl M h)
      rwa [Nat.add_right_comm] at this

theorem addLanes_err (M : StdModel fl u) {k : Nat} {acc' acc macc blk' blk mblk : List α}
    (ha : ErrL u k acc' acc macc) (hb : ErrL u k blk' blk mblk) :
    ErrL u (k + 1) (addLanes R acc' blk') (addLanes E acc blk) (addLanes E macc mblk) := by
  induction ha generalizing blk' blk mblk with
  | nil => exact .nil
  | cons ha _ ih => cases hb with
    | nil => exact .nil
    | cons hb tb => exact .cons (ha.add_fl M hb) (ih tb)

theorem foldl_addLanes_err (M : StdModel fl u) (w : Nat) : ∀ (n : Nat) {k : Nat} {ts' ts ms acc' acc macc : List α},
    ErrL u k ts' ts ms → ErrL u k acc' acc macc →
    ErrL u (k + n) ((chunks w n ts').foldl (addLanes R) acc') ((chunks w n ts).foldl (addLanes E) acc)
      ((chunks w n ms).foldl (addLanes E) macc)
  | 0, _, _, _, _, _, _, _, _, ha => ha
  | n+1, k, _, _, _, _, _, _, ht, ha => by
    have := foldl_addLanes_err M w n ((ht.drop w).mono M.u_nonneg (Nat.le_add_right k 1))
      (addLanes_err sq M ha (ht.take w))
    rwa [Nat.add_right_comm] at this

theorem lanes_err (M : StdModel fl u) (w : Nat) {k : Nat} {ts' ts ms : List α} (h : ErrL u k ts' ts ms) :
    ErrL u (k + ts.length / w) (lanes R w ts') (lanes E w ts) (lanes E w ms) := by
  unfold lanes
  rw [(h.length u).1, (h.length u).2]
  exact foldl_addLanes_err sq M w _ h (ErrL.replicate_zero k w)

/-- three more roundings: the depth of either tree -/
theorem hsum_err (M : StdModel fl u) (w : Nat) {k : Nat} {v' v mv : List α} (h : ErrL u k v' v mv) :
    Err u (k + 3) (hsum R w v') (hsum E w v) (hsum E w mv) := by
  have g := h.getD
  have hu := M.u_nonneg
  unfold hsum
  split
  · exact .add_fl M (.add_fl M (.add_fl M (g 0) (g 1)) (.add_fl M (g 2) (g 3)))
      (.add_fl M (.add_fl M (g 4) (g 5)) (.add_fl M (g 6) (g 7)))
  · exact .add_fl M (.add_fl M (.add_fl M (g 0) (g 1)) ((g 2).mono hu (Nat.le_succ k)))
      ((g 3).mono hu (Nat.le_add_right k 2))

/-- The count: `k` in each term, `n / w` additions into each lane, 3 in the horizontal sum, one per
term of the tail. -/
theorem blocked_err (M : StdModel fl u) (w : Nat) (hw : 0 < w) {k : Nat} {fv' fv gv ft' ft gt : α → α → α}
    (hv : ∀ x y, Err u k (fv' x y) (fv x y) (gv x y)) (ht : ∀ x y, Err u k (ft' x y) (ft x y) (gt x y))
    (a b : List α) (hab : a.length = b.length) :
    Err u (k + a.length / w + 3 + a.length % w)
      (blocked R w fv' ft' a b) (blocked E w fv ft a b) (blocked E w gv gt a b) := by
  have hH := hsum_err sq M w (lanes_err sq M w (ErrL.zipWith hv (a.take (a.length / w * w)) (b.take (a.length / w * w))))
  have hT := (ErrL.zipWith ht (a.drop (a.length / w * w)) (b.drop (a.length / w * w))).mono M.u_nonneg
    (Nat.le_add_right k (a.length / w + 3))
  rw [length_vecTerms w fv hab, Nat.mul_div_cancel _ hw] at hH
  have := foldl_err sq M (Nat.add_assoc k _ 3 ▸ hT) hH
  rwa [length_tailTerms w ft hab] at this

/-- The rounded functions of the vector part and of the tail may differ (Manhattan's do). The count
is written `n + (k + 3)` so that `k = 1` and `k = 3` give `n + 4` and `n + 6` by evaluating the
numeral. -/
theorem blocked_sum_err (M : StdModel fl u) (w : Nat) (hw : w = 8 ∨ w = 4) {k : Nat} {fv' ft' f g : α → α → α}
    (hv : ∀ x y, Err u k (fv' x y) (f x y) (g x y)) (ht : ∀ x y, Err u k (ft' x y) (f x y) (g x y))
    (a b : List α) (hab : a.length = b.length) :
    Err u (a.length + (k + 3)) (blocked R w fv' ft' a b) (List.zipWith f a b).sum (List.zipWith g a b).sum := by
  have hwpos := width_pos hw
  have hb := blocked_err sq M w hwpos hv ht a b hab
  rw [blocked_eq_sum sq _ w hw f a b hab, blocked_eq_sum sq _ w hw g a b hab] at hb
  refine hb.mono M.u_nonneg ?_
  have h1 := Nat.div_add_mod a.length w
  have h2 := Nat.le_mul_of_pos_left (a.length / w) hwpos
  omega

theorem seqSum_err (M : StdModel fl u) {k : Nat} {f' f g : α → α → α}
    (h : ∀ x y, Err u k (f' x y) (f x y) (g x y)) (a b : List α) :
    Err u (a.length + k) (seqSum R f' a b) (List.zipWith f a b).sum (List.zipWith g a b).sum := by
  have := foldl_err sq M (ErrL.zipWith h a b) (Err.zero u k)
  rw [foldl_add_sum, foldl_add_sum, zero_add, zero_add] at this
  refine this.mono M.u_nonneg ?_
  rw [List.length_zipWith, Nat.add_comm]
  exact Nat.add_le_add_right (Nat.min_le_left _ _) k

/-! ### per-element terms -/

theorem sqDiff_err (M : StdModel fl u) (x y : α) :
    Err u 3 (sqDiff R x y) (sqDiff E x y) (sqDiff E x y) := by
  have hd := (Err.exact u (x - y)).fl M
  have := (hd.mul hd).fl M
  rwa [abs_mul_abs_self] at this

theorem mul_err (M : StdModel fl u) (x y : α) : Err u 1 ((R).mul x y) (x * y) |x * y| :=
  (Err.exact u (x * y)).fl M

theorem mul_self_err (M : StdModel fl u) (x : α) : Err u 1 ((R).mul x x) (x * x) (x * x) := by
  have := mul_err sq M x x
  rwa [abs_mul_self] at this

theorem absDiff_err (M : StdModel fl u) (x y : α) :
    Err u 1 ((R).abs ((R).sub x y)) |x - y| |x - y| :=
  ((Err.exact u (x - y)).fl M).abs

theorem euclidSq_err (M : StdModel fl u) (a b : List α) (hab : a.length = b.length) :
    (∀ w, w = 8 ∨ w = 4 → Err u (a.length + 6) (euclidSq R w a b)
      (List.zipWith (sqDiff E) a b).sum (List.zipWith (sqDiff E) a b).sum) ∧
    Err u (a.length + 6) (seqSum R (sqDiff R) a b)
      (List.zipWith (sqDiff E) a b).sum (List.zipWith (sqDiff E) a b).sum :=
  ⟨fun w hw => blocked_sum_err sq M w hw (sqDiff_err sq M) (sqDiff_err sq M) a b hab,
   (seqSum_err sq M (sqDiff_err sq M) a b).mono M.u_nonneg (Nat.add_le_add_left (by decide) _)⟩

end
end Anndb.Simd
