import Anndb.Model.Heap
/-!
# `container/heap` keeps the heap order (C19, first half)

`le x y` ("x may sit above y") is `lt y x = false`. `LtOK` is what `Less` must satisfy;
it holds for `ltMin`/`ltMax` on scores that are totally ordered (non-NaN floats as bit
patterns).
-/
namespace Anndb
namespace Heap

structure LtOK (lt : Item → Item → Bool) : Prop where
  asymm : ∀ a b, lt a b = true → lt b a = false
  ntrans : ∀ a b c, lt b a = false → lt c b = false → lt c a = false

variable {lt : Item → Item → Bool}

theorem LtOK.irrefl (hlt : LtOK lt) (x : Item) : lt x x = false := by
  cases h : lt x x with
  | false => rfl
  | true => exact h.symm.trans (hlt.asymm x x h)

theorem parent_lt_self {k : Nat} (h : 0 < k) : parent k < k :=
  Nat.lt_of_le_of_lt (Nat.div_le_self _ _) (Nat.sub_lt h Nat.one_pos)

theorem parent_eq {k i : Nat} : 0 < k ∧ parent k = i ↔ k = 2 * i + 1 ∨ k = 2 * i + 2 := by
  constructor
  · rintro ⟨h, rfl⟩
    unfold parent; omega
  · -- by the division lemmas, which are much cheaper to check here than `omega`
    rintro (rfl | rfl)
    · exact ⟨Nat.succ_pos _, Nat.mul_div_cancel_left i Nat.two_pos⟩
    · exact ⟨Nat.succ_pos _, Nat.mul_add_div Nat.two_pos i 1⟩

/-- total accessor, so that statements do not carry bounds proofs -/
def get (a : Array Item) (k : Nat) : Item := (a[k]?).getD default

theorem getElem_eq_get (a : Array Item) (k : Nat) (h : k < a.size) : a[k] = get a k := by
  simp [get, h]

theorem get_swap_left (a : Array Item) (i j : Nat) (hi : i < a.size) (hj : j < a.size) :
    get (a.swap i j hi hj) i = get a j := by
  unfold get
  rw [Array.getElem?_swap]
  by_cases h : j = i
  · subst h; simp [hj]
  · simp [h, hj]

theorem get_swap_right (a : Array Item) (i j : Nat) (hi : i < a.size) (hj : j < a.size) :
    get (a.swap i j hi hj) j = get a i := by
  unfold get
  rw [Array.getElem?_swap]
  simp [hi]

theorem get_swap_ne (a : Array Item) (i j : Nat) (hi : i < a.size) (hj : j < a.size) (k : Nat)
    (h1 : k ≠ i) (h2 : k ≠ j) : get (a.swap i j hi hj) k = get a k := by
  unfold get
  rw [Array.getElem?_swap]
  simp [Ne.symm h1, Ne.symm h2]

/-- heap order on the first `n` cells -/
def HeapAbove (lt : Item → Item → Bool) (a : Array Item) (n lo : Nat) : Prop :=
  ∀ k, 0 < k → k < n → lo ≤ parent k → lt (get a k) (get a (parent k)) = false

/-- heap order on the first `n` cells -/
def IsHeap (lt : Item → Item → Bool) (a : Array Item) (n : Nat) : Prop := HeapAbove lt a n 0

theorem HeapAbove.congr {a b : Array Item} {n lo : Nat} (h : HeapAbove lt a n lo)
    (e : ∀ k, lo ≤ k → k < n → get b k = get a k) : HeapAbove lt b n lo := by
  intro k hk0 hkn hlo
  have hp := parent_lt_self hk0
  rw [e k (Nat.le_of_lt (Nat.lt_of_le_of_lt hlo hp)) hkn, e (parent k) hlo (Nat.lt_trans hp hkn)]
  exact h k hk0 hkn hlo

theorem pickChild_parent (lt : Item → Item → Bool) (a : Array Item) (i n : Nat) (hn : n ≤ a.size)
    (h1 : 2 * i + 1 < n) : i < pickChild lt a i n hn h1 ∧ parent (pickChild lt a i n hn h1) = i := by
  have ⟨h0, hp⟩ := parent_eq.mpr (pickChild_spec lt a i n hn h1).2
  have hlt := parent_lt_self h0
  rw [hp] at hlt
  exact ⟨hlt, hp⟩

theorem pickChild_le (hlt : LtOK lt) (a : Array Item) (i n : Nat) (hn : n ≤ a.size) (h1 : 2 * i + 1 < n)
    (k : Nat) (hk0 : 0 < k) (hk : k < n) (hp : parent k = i) :
    lt (get a k) (get a (pickChild lt a i n hn h1)) = false := by
  have hk' := parent_eq.mp ⟨hk0, hp⟩
  fun_cases pickChild lt a i n hn h1
  case case1 h2 hl =>
    rw [getElem_eq_get, getElem_eq_get] at hl
    rcases hk' with rfl | rfl
    · exact hlt.asymm _ _ hl
    · exact hlt.irrefl _
  case case2 h2 hl =>
    rw [getElem_eq_get, getElem_eq_get] at hl
    rcases hk' with rfl | rfl
    · exact hlt.irrefl _
    · exact Bool.eq_false_iff.mpr hl
  case case3 h2 =>
    rcases hk' with rfl | rfl
    · exact hlt.irrefl _
    · exact absurd hk h2

/-- heap order everywhere except possibly between `i` and its children, whose values
    are however bounded below by `i`'s parent -/
structure DownPre (lt : Item → Item → Bool) (a : Array Item) (i n lo : Nat) : Prop where
  other : ∀ k, 0 < k → k < n → lo ≤ parent k → parent k ≠ i → lt (get a k) (get a (parent k)) = false
  grand : ∀ k, 0 < k → k < n → parent k = i → 0 < i → lo ≤ parent i → lt (get a k) (get a (parent i)) = false

/-- One round of `down`. The child is a variable `j`; `hjn`, `hpj`, `hmin` are what is known of `pickChild`. -/
theorem DownPre.swap (hlt : LtOK lt) {a : Array Item} {i j n lo : Nat} (hia : i < a.size) (hja : j < a.size)
    (hpre : DownPre lt a i n lo) (hlo : lo ≤ i) (hj0 : 0 < j) (hjn : j < n) (hpj : parent j = i)
    (hmin : ∀ k, 0 < k → k < n → parent k = i → lt (get a k) (get a j) = false)
    (hl : lt (get a j) (get a i) = true) : DownPre lt (a.swap i j hia hja) j n lo := by
  have hij := hpj ▸ parent_lt_self hj0
  refine ⟨?_, ?_⟩
  · intro k hk0 hkn hlok hpk
    by_cases hkj : k = j
    · rw [hkj, hpj, get_swap_right, get_swap_left]
      exact hlt.asymm _ _ hl
    · by_cases hki : k = i
      · -- cell `i` now holds the old `a[j]`
        subst hki
        have hpi := parent_lt_self hk0
        rw [get_swap_ne a k j hia hja (parent k) (Nat.ne_of_lt hpi) (Nat.ne_of_lt (Nat.lt_trans hpi hij)),
          get_swap_left]
        exact hpre.grand j hj0 hjn hpj hk0 hlok
      · rw [get_swap_ne a i j hia hja k hki hkj]
        by_cases hpki : parent k = i
        · rw [hpki, get_swap_left]
          exact hmin k hk0 hkn hpki
        · rw [get_swap_ne a i j hia hja (parent k) hpki hpk]
          exact hpre.other k hk0 hkn hlok hpki
  · -- a child `k` of `j` was in order below the old `a[j]`, which now sits at `i = parent j`
    intro k hk0 hkn hpk _ _
    subst hpk
    have hjk := parent_lt_self hk0
    rw [get_swap_ne a i _ hia hja k (Nat.ne_of_gt (Nat.lt_trans hij hjk)) (Nat.ne_of_gt hjk), hpj, get_swap_left]
    exact hpre.other k hk0 hkn (Nat.le_trans hlo (Nat.le_of_lt hij)) (Nat.ne_of_gt hij)

theorem down_heap (hlt : LtOK lt) (a : Array Item) (i n lo : Nat) (hn : n ≤ a.size) (hlo : lo ≤ i)
    (hpre : DownPre lt a i n lo) : HeapAbove lt (down lt a i n hn) n lo := by
  fun_induction down lt a i n hn with
  | case1 a i hn h1 hl ih =>
    have ⟨hij, hpj⟩ := pickChild_parent lt a i n hn h1
    rw [getElem_eq_get, getElem_eq_get] at hl
    exact ih (Nat.le_trans hlo (Nat.le_of_lt hij)) (hpre.swap hlt _ _ hlo (Nat.zero_lt_of_lt hij)
      (pickChild_spec lt a i n hn h1).1 hpj (pickChild_le hlt a i n hn h1) hl)
  | case2 a i hn h1 hl =>
    -- `i` is not above its least child, hence not above any
    rw [getElem_eq_get, getElem_eq_get, Bool.not_eq_true] at hl
    intro k hk0 hkn hlok
    by_cases hpk : parent k = i
    · exact hpk ▸ hlt.ntrans _ _ _ hl (pickChild_le hlt a i n hn h1 k hk0 hkn hpk)
    · exact hpre.other k hk0 hkn hlok hpk
  | case3 a i hn h1 =>
    intro k hk0 hkn hlok
    exact hpre.other k hk0 hkn hlok fun hpk => by have := parent_eq.mp ⟨hk0, hpk⟩; omega

/-- the form `Init` and `Pop` need: there `lo = i`, which makes `DownPre.grand` vacuous -/
theorem down_heapAbove (hlt : LtOK lt) (a : Array Item) (i n : Nat) (hn : n ≤ a.size)
    (h : HeapAbove lt a n (i + 1)) : HeapAbove lt (down lt a i n hn) n i :=
  down_heap hlt a i n i hn (Nat.le_refl _)
    ⟨fun k hk0 hkn hlo hne => h k hk0 hkn (Nat.lt_of_le_of_ne hlo (Ne.symm hne)),
     fun _ _ _ _ hi0 hlo => absurd (parent_lt_self hi0) (Nat.not_lt_of_ge hlo)⟩

theorem down_frame (a : Array Item) (i n : Nat) (hn : n ≤ a.size) (k : Nat) (hk : n ≤ k) :
    get (down lt a i n hn) k = get a k := by
  fun_induction down lt a i n hn with
  | case1 a i hn h1 hl ih =>
    have hjk := Nat.lt_of_lt_of_le (pickChild_spec lt a i n hn h1).1 hk
    rw [ih]
    exact get_swap_ne a i _ _ _ k (Nat.ne_of_gt (Nat.lt_trans (pickChild_parent lt a i n hn h1).1 hjk))
      (Nat.ne_of_gt hjk)
  | case2 => rfl
  | case3 => rfl

theorem down_perm (a : Array Item) (i n : Nat) (hn : n ≤ a.size) : (down lt a i n hn).Perm a := by
  fun_induction down lt a i n hn with
  | case1 a i hn h1 hl ih => exact ih.trans (Array.swap_perm _ _)
  | case2 => exact .refl _
  | case3 => exact .refl _

theorem up_perm (a : Array Item) (j : Nat) (hj : j < a.size) : (up lt a j hj).Perm a := by
  fun_induction up lt a j hj with
  | case1 => exact .refl _
  | case2 a j hj h0 hl ih => exact ih.trans (Array.swap_perm _ _)
  | case3 => exact .refl _

/-- heap order everywhere except possibly between `j` and its parent; `j`'s children are
    bounded below by `j`'s parent -/
structure UpPre (lt : Item → Item → Bool) (a : Array Item) (j n : Nat) : Prop where
  other : ∀ k, 0 < k → k < n → k ≠ j → lt (get a k) (get a (parent k)) = false
  grand : ∀ k, 0 < k → k < n → parent k = j → 0 < j → lt (get a k) (get a (parent j)) = false

theorem UpPre.swap (hlt : LtOK lt) {a : Array Item} {j n : Nat} (hpa : parent j < a.size) (hja : j < a.size)
    (hpre : UpPre lt a j n) (hj0 : 0 < j) (hjn : j < n)
    (hl : lt (get a j) (get a (parent j)) = true) : UpPre lt (a.swap (parent j) j hpa hja) (parent j) n := by
  have hpl := parent_lt_self hj0
  refine ⟨?_, ?_⟩
  · intro k hk0 hkn hkp
    by_cases hkj : k = j
    · rw [hkj, get_swap_right, get_swap_left]
      exact hlt.asymm _ _ hl
    · rw [get_swap_ne a _ j hpa hja k hkp hkj]
      by_cases hpk : parent k = j
      · -- cell `j` now holds the old `a[parent j]`
        rw [hpk, get_swap_right]
        exact hpre.grand k hk0 hkn hpk hj0
      · by_cases hpk2 : parent k = parent j
        · -- the sibling of `j`: old `a[j]` is `lt` old `a[parent j]`, which was above the sibling
          rw [hpk2, get_swap_left]
          exact hlt.ntrans _ _ _ (hlt.asymm _ _ hl) (hpk2 ▸ hpre.other k hk0 hkn hkj)
        · rw [get_swap_ne a _ j hpa hja (parent k) hpk2 hpk]
          exact hpre.other k hk0 hkn hkj
  · intro k hk0 hkn hpk hp0
    -- `k` is `j` or its sibling; what bounds it is the grandparent, which was above `parent j`
    have hgp := parent_lt_self hp0
    have hpp := hpre.other (parent j) hp0 (Nat.lt_trans hpl hjn) (Nat.ne_of_lt hpl)
    rw [get_swap_ne a _ j hpa hja (parent (parent j)) (Nat.ne_of_lt hgp) (Nat.ne_of_lt (Nat.lt_trans hgp hpl))]
    by_cases hkj : k = j
    · rw [hkj, get_swap_right]; exact hpp
    · rw [get_swap_ne a _ j hpa hja k (Nat.ne_of_gt (hpk ▸ parent_lt_self hk0)) hkj]
      exact hlt.ntrans _ _ _ hpp (hpk ▸ hpre.other k hk0 hkn hkj)

theorem up_heap (hlt : LtOK lt) (a : Array Item) (j : Nat) (hj : j < a.size) (n : Nat) (hn : j < n)
    (hpre : UpPre lt a j n) : IsHeap lt (up lt a j hj) n := by
  fun_induction up lt a j hj with
  | case1 a hj =>
    intro k hk0 hkn _
    exact hpre.other k hk0 hkn (Nat.ne_of_gt hk0)
  | case2 a j hj h0 hl ih =>
    have hj0 := Nat.pos_of_ne_zero h0
    rw [getElem_eq_get, getElem_eq_get] at hl
    exact ih (Nat.lt_trans (parent_lt_self hj0) hn) (hpre.swap hlt _ hj hj0 hn hl)
  | case3 a j hj h0 hl =>
    rw [getElem_eq_get, getElem_eq_get, Bool.not_eq_true] at hl
    intro k hk0 hkn _
    by_cases hkj : k = j
    · exact hkj ▸ hl
    · exact hpre.other k hk0 hkn hkj

/-- the form `Push` needs: `j` is the last cell and has no child, which makes `UpPre.grand` vacuous -/
theorem up_isHeap (hlt : LtOK lt) (a : Array Item) (j : Nat) (hj : j < a.size) (h : IsHeap lt a j) :
    IsHeap lt (up lt a j hj) (j + 1) :=
  up_heap hlt a j hj (j + 1) (Nat.lt_succ_self j)
    ⟨fun k hk0 hkn hkj => h k hk0 (Nat.lt_of_le_of_ne (Nat.le_of_lt_succ hkn) hkj) (Nat.zero_le _),
     fun _ hk0 hkn hpk _ => absurd (hpk ▸ parent_lt_self hk0) (Nat.not_lt_of_ge (Nat.le_of_lt_succ hkn))⟩

theorem root_best (hlt : LtOK lt) (a : Array Item) (n : Nat) (h : IsHeap lt a n) (k : Nat) (hk : k < n) :
    lt (get a k) (get a 0) = false := by
  induction k using Nat.strongRecOn with
  | _ k ih =>
    by_cases h0 : k = 0
    · subst h0; exact hlt.irrefl _
    · have h0 := Nat.pos_of_ne_zero h0
      have hp := parent_lt_self h0
      exact hlt.ntrans _ _ _ (ih (parent k) hp (Nat.lt_trans hp hk)) (h k h0 hk (Nat.zero_le _))

end Heap
end Anndb
