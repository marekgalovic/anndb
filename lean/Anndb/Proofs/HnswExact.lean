import Anndb.Proofs.HnswInsertOnly
import Anndb.Proofs.HnswComplete
import Anndb.Proofs.SortSpec
/-!
# Exact search on small insert-only collections (C07)

For a state satisfying `IO` (built by inserts only, at most `mMax0 + 1` items) and a beam that
covers it (`s.next ≤ max ef k`), `search` returns exactly `min k n` hits and every stored item
that is not among them is at least as far from the query as every hit.
-/
namespace Anndb

section
variable {Pmin Pmax : PQImpl} {dist : VecRef → VecRef → Score} (cfg : Cfg)
variable (hmin : Lawful Pmin minBetter) (hmax : Lawful Pmax maxBetter)
variable (s : Index) (q : VecRef)

/-- the level-0 graph of an `IO` state is connected: a set that contains a vertex and is closed
under live level-0 links contains every allocated vertex -/
theorem reach_all (h : IO cfg s) (cur : Vid) (l : List Item)
    (hc : Complete dist s q 0 cur l) (hcur : cur < s.next) :
    ∀ v, v < s.next → ∃ it ∈ l, it.vid = v := by
  have hin : ∀ u, (∃ it ∈ l, it.vid = u) → ∀ w ∈ s.nbrs u 0, ∃ it ∈ l, it.vid = w := by
    rintro u ⟨it, hit, rfl⟩ w hw
    exact hc.closed it hit w hw (h.valid _ _ _ hw)
  -- a vertex is in the set iff the older vertex it is linked to is (the links are symmetric), hence
  -- iff vertex 0 is
  have key : ∀ u, u < s.next → ((∃ it ∈ l, it.vid = u) ↔ ∃ it ∈ l, it.vid = 0) := by
    intro u
    induction u using Nat.strongRecOn with | _ u ih =>
    intro hlt
    by_cases hz : u = 0
    · rw [hz]
    · obtain ⟨w, hw, hwlt⟩ := h.parent u (Nat.pos_of_ne_zero hz) hlt
      have hiff := ih w hwlt (Nat.lt_trans hwlt hlt)
      exact ⟨fun hm => hiff.mp (hin u hm w hw), fun h0 => hin w (hiff.mpr h0) u (h.l0.sym u w hw)⟩
  exact fun v hv => (key v hv).mpr ((key cur hcur).mp hc.start)

include hmin hmax in
/-- selection of the `k` best when the candidates are all live vertices -/
theorem selectNbrs_best (n : Pmax.Q) (k level : Nat)
    (hall : ∀ w, s.isDeleted w = false → w ∈ (Pmax.toList n).map (·.vid)) :
    Best (Pmax.toList (selectNbrs Pmin Pmax dist cfg s q n k level)) (Pmax.toList n) ∧
    Pmax.len (selectNbrs Pmin Pmax dist cfg s q n k level) = min k (Pmax.len n) := by
  obtain ⟨ext, ⟨_, hext⟩, hb, hl⟩ := selectNbrs_spec dist cfg hmin hmax s q n k level
  -- an added vertex would be live and not among the items: there is none
  have he : ext = [] := List.eq_nil_iff_forall_not_mem.mpr fun w hw => (hext w hw).2.1 (hall w (hext w hw).1)
  subst he
  exact ⟨hb, by rw [hl, List.length_nil, Nat.zero_add]⟩

include hmin hmax in
/-- exactness for an already clamped `k`, item for item -/
theorem searchCore_best (hio : IO cfg s) (k : Nat) (hcover : s.next ≤ max cfg.ef k) :
    ∃ L : List Item, searchCore Pmin Pmax dist cfg s q k = L.map (hitOf s) ∧ L.length = min k s.next ∧
      Best L ((List.range s.next).map fun v => ⟨dist q (s.vecOf v), v⟩) := by
  cases hent : s.entry with
  | none =>
    have hn0 : s.next = 0 := Nat.eq_zero_of_not_pos fun hz => hio.entrySome hz hent
    exact ⟨[], by simp [searchCore, hent], by simp [hn0], by rw [hn0]; exact Best.refl _⟩
  | some ep =>
    obtain ⟨cur, hcur, _, hr⟩ := searchCore_eq cfg hmin hmax s q hent (hio.al.live ep (hio.entryLt ep hent)) k
    have hcurlt := hio.al.lt_of_live hcur
    have hcomp := searchLevel_complete (dist := dist) hmin hmax s q (max cfg.ef k) 0 cur hcover hcurlt
      (fun u w _ _ hdw => hio.al.lt_of_live hdw)
    have hallv := reach_all cfg s q hio cur _ hcomp hcurlt
    generalize searchLevel Pmin Pmax dist s q cur (max cfg.ef k) 0 = n at hcomp hallv hr
    have hvids : ((Pmax.toList n).map (·.vid)).Perm (List.range s.next) := by
      refine (List.perm_ext_iff_of_nodup hcomp.res.nodup List.nodup_range).mpr fun a => ⟨fun ha => ?_, fun ha => ?_⟩
      · obtain ⟨it, hit, rfl⟩ := List.mem_map.mp ha
        exact List.mem_range.mpr (hcomp.res.items it hit).2.2
      · obtain ⟨it, hit, hvid⟩ := hallv a (List.mem_range.mp ha)
        exact List.mem_map.mpr ⟨it, hit, hvid⟩
    -- the beam's result is, up to order, the whole distance row
    have hrow : (Pmax.toList n).Perm ((List.range s.next).map fun v => ⟨dist q (s.vecOf v), v⟩) := by
      refine List.Perm.trans (.of_eq ?_) (hvids.map _)
      rw [List.map_map]
      exact (List.map_id _).symm.trans (List.map_congr_left fun it hit => by
        rw [Function.comp_apply, ← (hcomp.res.items it hit).1]; rfl)
    obtain ⟨hbest, hsellen⟩ := selectNbrs_best (dist := dist) cfg hmin hmax s q n k 0
      (fun w hw => hvids.mem_iff.mpr (List.mem_range.mpr (hio.al.lt_of_live hw)))
    generalize selectNbrs Pmin Pmax dist cfg s q n k 0 = sel at hbest hsellen hr
    have hperm := PQImpl.drain_perm hmax sel
    have hlen : (Pmax.drain sel).length = min k s.next := by
      rw [hperm.length_eq, ← List.length_range (n := s.next), ← hvids.length_eq, List.length_map]
      exact hsellen
    refine ⟨(Pmax.drain sel).reverse, ?_, by rw [List.length_reverse, hlen], ?_⟩
    · rw [hr, List.take_of_length_le (hlen ▸ Nat.min_le_left k s.next)]
    · exact (hbest.of_perm hrow).perm_left (hperm.symm.trans (List.reverse_perm _).symm)

include hmin hmax in
/-- **C07 (exactness).** `min k n` hits; each stored vertex is among them (id and distance) or at least as far as every
hit; the same on scores alone (the distance row is the hits' scores and a rest they bound below), as `Exact.topk_of_best` takes it. -/
theorem search_exact (hio : IO cfg s) (k : Nat) (hcover : s.next ≤ max cfg.ef k) :
    let r := search Pmin Pmax dist cfg s q k
    r.length = min k s.next ∧
    (∀ v, v < s.next →
      (∃ h ∈ r, h.id = s.idOf v ∧ h.score = dist q (s.vecOf v)) ∨
      (∀ h ∈ r, h.score ≤ dist q (s.vecOf v))) ∧
    (∃ rest, ((List.range s.next).map (fun v => dist q (s.vecOf v))).Perm (r.map (·.score) ++ rest) ∧
      ∀ y ∈ r.map (·.score), ∀ x ∈ rest, y ≤ x) := by
  intro r
  have hck : clampK s k = if 0 < s.next ∧ s.next < k then s.next else k := by
    unfold clampK; rw [hio.idsLen]
  have hcover' : s.next ≤ max cfg.ef (clampK s k) := by
    rw [hck]; split
    · exact Nat.le_max_right ..
    · exact hcover
  obtain ⟨L, hr, hlen, rest, hp, hd⟩ := searchCore_best (dist := dist) cfg hmin hmax s q hio (clampK s k) hcover'
  have hr : r = L.map (hitOf s) := hr
  refine ⟨?_, fun v hv => ?_, rest.map (·.score), ?_, ?_⟩
  · rw [hr, List.length_map, hlen, hck]
    split
    · next hc => rw [Nat.min_self, Nat.min_eq_right (Nat.le_of_lt hc.2)]
    · rfl
  · -- `v`'s item is among the chosen ones or among the rest, which the chosen ones dominate
    have hv' : (⟨dist q (s.vecOf v), v⟩ : Item) ∈ L ++ rest :=
      hp.mem_iff.mp (List.mem_map.mpr ⟨v, List.mem_range.mpr hv, rfl⟩)
    rw [hr]
    rcases List.mem_append.mp hv' with hin | hout
    · exact Or.inl ⟨_, List.mem_map.mpr ⟨_, hin, rfl⟩, rfl, rfl⟩
    · refine Or.inr fun h hh => ?_
      obtain ⟨y, hy, rfl⟩ := List.mem_map.mp hh
      exact hd y hy _ hout
  · have := hp.map (·.score)
    rw [List.map_map, List.map_append] at this
    rw [hr, List.map_map]
    exact this
  · rw [hr, List.map_map]
    intro y hy x hx
    obtain ⟨it, hit, rfl⟩ := List.mem_map.mp hy
    obtain ⟨jt, hjt, rfl⟩ := List.mem_map.mp hx
    exact hd it hit jt hjt

include hmin hmax in
/-- **C07 (exactness, against the brute-force ranking).** -/
theorem search_scores_eq_bruteforce (hio : IO cfg s) (hinv : Inv s) (k : Nat) (hcover : s.next ≤ max cfg.ef k) :
    (search Pmin Pmax dist cfg s q k).map (·.score) =
      Exact.exactTopK k ((List.range s.next).map (fun v => dist q (s.vecOf v))) := by
  obtain ⟨h1, _, rest, hp, hd⟩ := search_exact (dist := dist) cfg hmin hmax s q hio k hcover
  have hsorted := (search_sound (dist := dist) cfg hmin hmax s q hinv k).2.1
  exact Exact.topk_of_best k _ _ rest hsorted hp hd (by simp [h1])

end
end Anndb
