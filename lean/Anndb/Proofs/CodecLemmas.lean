import Anndb.Model.Codec
/-!
# The snapshot codec's decoders against its encoders (C08)

Two properties of a decoder, each closed under the sequencing the decoders are built with: it reads
back what an encoder wrote (`Reads`), and it takes at least so many bytes (`Consumes`).
-/
namespace Anndb.Codec

theorem beBytes_length (w n : Nat) : (beBytes w n).length = w := by simp [beBytes]

theorem beNat_append_single (bs : Bytes) (b : Nat) : beNat (bs ++ [b]) = beNat bs * 256 + b := by
  simp [beNat, List.foldl_append]

theorem beBytes_succ (w n : Nat) : beBytes (w + 1) n = beBytes w (n / 256) ++ [n % 256] := by
  unfold beBytes
  rw [List.range_succ, List.map_append]
  congr 1
  · apply List.map_congr_left
    intro i hi
    have hi' : i < w := List.mem_range.mp hi
    have e1 : w + 1 - 1 - i = (w - 1 - i) + 1 := by omega
    rw [e1, Nat.pow_succ, Nat.mul_comm, ← Nat.div_div_eq_div_mul]
  · simp

theorem beNat_beBytes (w n : Nat) (h : n < 256 ^ w) : beNat (beBytes w n) = n := by
  induction w generalizing n with
  | zero =>
    have : n = 0 := by simpa using h
    subst this; rfl
  | succ w ih =>
    rw [beBytes_succ, beNat_append_single, ih (n / 256)]
    · exact Nat.div_add_mod' n 256
    · rw [Nat.pow_succ] at h
      exact Nat.div_lt_of_lt_mul (by rw [Nat.mul_comm]; exact h)

theorem beBytes_inj (w a b : Nat) (ha : a < 256 ^ w) (hb : b < 256 ^ w) (h : beBytes w a = beBytes w b) : a = b :=
  beNat_beBytes w a ha ▸ beNat_beBytes w b hb ▸ congrArg beNat h

/-! ### the primitive readers -/

theorem takeN_eq_some_iff {n : Nat} {bs a rest : Bytes} :
    takeN n bs = some (a, rest) ↔ bs = a ++ rest ∧ a.length = n := by
  unfold takeN
  constructor
  · split
    · exact nofun
    · next hn =>
      intro h
      cases h
      exact ⟨(List.take_append_drop n bs).symm, List.length_take_of_le (Nat.le_of_not_lt hn)⟩
  · rintro ⟨rfl, rfl⟩
    simp

theorem readBE_eq_some_iff {w : Nat} {bs : Bytes} {n : Nat} {rest : Bytes} :
    readBE w bs = some (n, rest) ↔ ∃ a, bs = a ++ rest ∧ a.length = w ∧ beNat a = n := by
  simp only [readBE, Option.map_eq_some_iff, Prod.exists, Prod.mk.injEq, takeN_eq_some_iff]
  constructor
  · rintro ⟨a, _, h, hn, rfl⟩
    exact ⟨a, h.1, h.2, hn⟩
  · rintro ⟨a, h1, h2, hn⟩
    exact ⟨a, rest, ⟨h1, h2⟩, hn, rfl⟩

/-! ### reading back what was written

The decoders are `do`-blocks over `Option`: a step reads a value off the front of the stream and
what it read decides how the rest is read (a count, then that many records). `Reads` is the round
trip in the form that composes along such a block: each record's round trip below is its format,
written as the sequence of its fields. -/

def Reads {α : Type} (dec : Bytes → Option (α × Bytes)) (a : Bytes) (x : α) : Prop :=
  ∀ rest, dec (a ++ rest) = some (x, rest)

section
variable {α β : Type} {d : Bytes → Option (α × Bytes)} {k : α × Bytes → Option (β × Bytes)}
  {a b : Bytes} {x : α} {y : β}

/-- Sequencing. A chain of these is elaborated from the outside in, against the decoder in the goal:
that fixes each continuation `k` before the proof for it is looked at. Built from the inside out
(under field notation, as in `(Reads.bind ..).foo`) `k` is a higher-order guess and mostly the wrong
one; and `enc` of `Reads.decMany` is best left to unification, which is fast where an explicit
`(enc := ..)` is slow. -/
theorem Reads.bind (hd : Reads d a x) (hk : Reads (fun bs => k (x, bs)) b y) :
    Reads (fun bs => d bs >>= k) (a ++ b) y := by
  intro rest
  show d (a ++ b ++ rest) >>= k = _
  rw [List.append_assoc, hd]
  exact hk rest

/-- the last field of a record, after which the decoder returns the assembled value -/
theorem Reads.bind_pure (hd : Reads d a x) (hk : ∀ bs, k (x, bs) = some (y, bs)) :
    Reads (fun bs => d bs >>= k) a y := by
  intro rest
  show d (a ++ rest) >>= k = _
  rw [hd]
  exact hk rest

theorem Reads.ite_neg {c : Bytes → Prop} [DecidablePred c] {t : Bytes → Option (α × Bytes)}
    (hc : ∀ rest, ¬c (a ++ rest)) (hd : Reads d a x) : Reads (fun bs => if c bs then t bs else d bs) a x :=
  fun rest => (if_neg (hc rest)).trans (hd rest)
end

theorem Reads.takeN (a : Bytes) : Reads (takeN a.length) a a :=
  fun _ => takeN_eq_some_iff.mpr ⟨rfl, rfl⟩

theorem Reads.readBE {w n : Nat} (h : n < 256 ^ w) : Reads (readBE w) (beBytes w n) n :=
  fun _ => readBE_eq_some_iff.mpr ⟨_, rfl, beBytes_length w n, beNat_beBytes w n h⟩

theorem Reads.decMany {α : Type} {enc : α → Bytes} {dec : Bytes → Option (α × Bytes)} {xs : List α}
    (h : ∀ x ∈ xs, Reads dec (enc x) x) : Reads (decMany dec xs.length) (xs.map enc).flatten xs := by
  induction xs with
  | nil => exact fun _ => rfl
  | cons x t ih =>
    exact .bind (h x List.mem_cons_self) (.bind_pure (ih fun y hy => h y (List.mem_cons_of_mem _ hy)) fun _ => rfl)

/-! ### how much a successful read takes

The converse direction, as far as it is needed: counts read from the stream size allocations, and
a count of records that each take at least one byte cannot exceed the bytes that were there. -/

def Consumes {α : Type} (dec : Bytes → Option (α × Bytes)) (n : Nat) : Prop :=
  ∀ bs x rest, dec bs = some (x, rest) → rest.length + n ≤ bs.length

section
variable {α β : Type} {d : Bytes → Option (α × Bytes)} {k : α × Bytes → Option (β × Bytes)} {n m : Nat}

theorem Consumes.mono (h : Consumes d n) (hle : m ≤ n) : Consumes d m :=
  fun bs x rest hd => Nat.le_trans (Nat.add_le_add_left hle _) (h bs x rest hd)

theorem Consumes.pure (f : Bytes → β) : Consumes (fun bs => pure (f bs, bs)) 0 := by
  intro bs y rest h
  cases h
  exact Nat.le_refl _

theorem Consumes.bind (hd : Consumes d n) (hk : ∀ x, Consumes (fun bs => k (x, bs)) m) :
    Consumes (fun bs => d bs >>= k) (n + m) := by
  intro bs y rest h
  obtain ⟨⟨x, b1⟩, h1, h2⟩ := Option.bind_eq_some_iff.mp h
  have := hd bs x b1 h1
  have := hk x b1 y rest h2
  omega
end

theorem Consumes.takeN (n : Nat) : Consumes (takeN n) n := by
  intro bs a rest h
  obtain ⟨rfl, rfl⟩ := takeN_eq_some_iff.mp h
  simp [Nat.add_comm]

theorem Consumes.readBE (w : Nat) : Consumes (readBE w) w := by
  intro bs n rest h
  obtain ⟨a, rfl, rfl, -⟩ := readBE_eq_some_iff.mp h
  simp [Nat.add_comm]

theorem Consumes.decMany {α : Type} {dec : Bytes → Option (α × Bytes)} {m : Nat} (h : Consumes dec m) (n : Nat) :
    Consumes (decMany dec n) (n * m) := by
  induction n with
  | zero => exact .mono (.pure _) (Nat.le_of_eq (Nat.zero_mul m))
  | succ n ih =>
    exact .mono (h.bind fun _ => ih.bind fun _ => .pure _) (Nat.le_of_eq ((Nat.succ_mul n m).trans (Nat.add_comm _ _)))

theorem decMany_length {α : Type} {dec : Bytes → Option (α × Bytes)} {n : Nat} {bs rest : Bytes} {xs : List α}
    (h : decMany dec n bs = some (xs, rest)) : xs.length = n := by
  induction n generalizing bs xs rest with
  | zero => cases h; rfl
  | succ n ih =>
    obtain ⟨_, -, h⟩ := Option.bind_eq_some_iff.mp h
    obtain ⟨⟨ys, _⟩, hm, h⟩ := Option.bind_eq_some_iff.mp h
    cases h
    exact congrArg (· + 1) (ih hm)

/-! ### well-formedness: the explicit bounds under which the format is faithful -/

def KV.wf (kv : KV) : Prop :=
  kv.key.length < 256 ∧ kv.val.length < 65536

def VRec.wf (dim : Nat) (v : VRec) : Prop :=
  v.id < 256 ^ 16 ∧ v.level < 256 ^ 4 ∧ v.vec.length = dim ∧ (∀ x ∈ v.vec, x < 256 ^ 4) ∧
  v.md.length < 65536 ∧ ∀ kv ∈ v.md, kv.wf

def levelWf (l : List (Nat × Nat)) : Prop :=
  l.length < 256 ^ 4 ∧ ∀ e ∈ l, e.1 < 256 ^ 16 ∧ e.2 < 256 ^ 4

def ERec.wf (sh : List VRec) (e : ERec) : Prop :=
  e.id < 256 ^ 16 ∧ (sh.find? (·.id == e.id)).map (·.level) = some (e.levels.length - 1) ∧
  0 < e.levels.length ∧ ∀ l ∈ e.levels, levelWf l

def File.wf (dim : Nat) (f : File) : Prop :=
  f.entry < 256 ^ 16 ∧ f.shards.length = 16 ∧
  (∀ sh ∈ f.shards, sh.length < 256 ^ 4 ∧ ∀ v ∈ sh, v.wf dim) ∧
  List.Forall₂' f.shards f.edges
where
  /-- shard-wise: one edge record per vertex of the shard, each well formed w.r.t. its shard -/
  List.Forall₂' : List (List VRec) → List (List ERec) → Prop
    | [], [] => True
    | sh :: shs, g :: gs => g.length = sh.length ∧ (∀ e ∈ g, e.wf sh) ∧ List.Forall₂' shs gs
    | _, _ => False

instance (kv : KV) : Decidable kv.wf := inferInstanceAs (Decidable (_ ∧ _))
instance (dim : Nat) (v : VRec) : Decidable (v.wf dim) := inferInstanceAs (Decidable (_ ∧ _))
instance (l : List (Nat × Nat)) : Decidable (levelWf l) := inferInstanceAs (Decidable (_ ∧ _))
instance (sh : List VRec) (e : ERec) : Decidable (e.wf sh) := inferInstanceAs (Decidable (_ ∧ _))

instance File.wf.decForall₂' : ∀ shs gs, Decidable (File.wf.List.Forall₂' shs gs)
  | [], [] => isTrue trivial
  | _ :: shs, _ :: gs =>
    have := decForall₂' shs gs
    inferInstanceAs (Decidable (_ ∧ _ ∧ _))
  | [], _ :: _ => isFalse id
  | _ :: _, [] => isFalse id

instance (dim : Nat) (f : File) : Decidable (f.wf dim) := inferInstanceAs (Decidable (_ ∧ _))

/-! ### the records -/

theorem decKV_reads (kv : KV) (h : kv.wf) : Reads decKV (encKV kv) kv := by
  unfold encKV
  simp only [List.append_assoc]
  exact .bind (.readBE h.1) (.bind (.takeN _) (.bind (.readBE h.2) (.bind_pure (.takeN _) fun _ => rfl)))

theorem decV_reads (dim : Nat) (v : VRec) (h : v.wf dim) : Reads (decV dim) (encV v) v := by
  obtain ⟨h1, h2, rfl, h4, h5, h6⟩ := h
  unfold encV
  simp only [List.append_assoc]
  exact .bind (.readBE h1) (.bind (.readBE h2) (.bind (.decMany fun x hx => .readBE (h4 x hx))
    (.bind (.readBE h5) (.bind_pure (.decMany fun kv hkv => decKV_reads kv (h6 kv hkv)) fun _ => rfl))))

theorem decShard_reads (dim : Nat) (sh : List VRec) (hl : sh.length < 256 ^ 4) (h : ∀ v ∈ sh, v.wf dim) :
    Reads (decShard dim) (beBytes 4 sh.length ++ (sh.map encV).flatten) sh :=
  .bind (.readBE hl) (.decMany fun v hv => decV_reads dim v (h v hv))

theorem decEdge_reads (e : Nat × Nat) (h1 : e.1 < 256 ^ 16) (h2 : e.2 < 256 ^ 4) :
    Reads decEdge (beBytes 16 e.1 ++ beBytes 4 e.2) e :=
  .bind (.readBE h1) (.bind_pure (.readBE h2) fun _ => rfl)

theorem decLevel_reads (l : List (Nat × Nat)) (h : levelWf l) :
    Reads decLevel (beBytes 4 l.length ++ (l.map fun (n, d) => beBytes 16 n ++ beBytes 4 d).flatten) l :=
  .bind (.readBE h.1) (.decMany fun e he => decEdge_reads e (h.2 e he).1 (h.2 e he).2)

theorem decE_reads (sh : List VRec) (e : ERec) (h : e.wf sh) :
    Reads (decE fun id => (sh.find? (·.id == id)).map (·.level)) (encE e) e := by
  obtain ⟨h1, h2, h3, h4⟩ := h
  refine .bind (.readBE h1) ?_
  -- the level looked up for the id just read is the one the record was written with
  simp only [h2, Option.bind_eq_bind, Option.bind_some]
  rw [Nat.sub_add_cancel h3]
  exact .bind_pure (.decMany fun l hl => decLevel_reads l (h4 l hl)) fun _ => rfl

theorem decEdgeGroups_reads (shards : List (List VRec)) (edges : List (List ERec))
    (h : File.wf.List.Forall₂' shards edges) :
    Reads (decEdgeGroups shards) (edges.map fun g => (g.map encE).flatten).flatten edges := by
  induction shards generalizing edges with
  | nil =>
    cases edges with
    | nil => exact fun _ => rfl
    | cons g gs => exact h.elim
  | cons sh shs ih =>
    cases edges with
    | nil => exact h.elim
    | cons g gs =>
      obtain ⟨hl, hg, hrest⟩ := h
      exact .bind (hl ▸ .decMany fun e he => decE_reads sh e (hg e he)) (.bind_pure (ih gs hrest) fun _ => rfl)

theorem decKV_consumes : Consumes decKV 3 :=
  .mono (.bind (.readBE 1) fun _ => .bind (.mono (.takeN _) (Nat.zero_le _)) fun _ => .bind (.readBE 2) fun _ =>
    .bind (.mono (.takeN _) (Nat.zero_le _)) fun _ => .pure _) (by omega)

/-- a vertex record takes at least its fixed-width part: id, level, `dim` words, metadata count -/
theorem decV_consumes (dim : Nat) : Consumes (decV dim) (22 + dim * 4) :=
  .mono (.bind (.readBE 16) fun _ => .bind (.readBE 4) fun _ => .bind (.decMany (.readBE 4) dim) fun _ =>
    .bind (.readBE 2) fun _ => .bind (.mono (.decMany decKV_consumes _) (Nat.zero_le _)) fun _ => .pure _) (by omega)

end Anndb.Codec
