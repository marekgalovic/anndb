import Anndb.Model.Wal
/-!
# Runs of consecutive indices (C06)

What the store's invariant says of the group's entry keys, and what every batch handed to `Save`
is: the indices `a, a + 1, …` in order. `IsRun a l` names the first index, so that positions and
indices translate by adding `a`; `Contig l` is the same without the name. Seeking, the prefix scan
and the scan up to an index are `l[i - a]?`, `drop` and `take`.
-/
namespace Anndb.Wal

def Contig : List Entry → Prop
  | [] => True
  | [_] => True
  | a :: b :: t => b.index = a.index + 1 ∧ Contig (b :: t)

def IsRun (a : Nat) (l : List Entry) : Prop := l.map (·.index) = List.range' a l.length

theorem isRun_nil (a : Nat) : IsRun a [] := rfl

theorem isRun_cons {a : Nat} {x : Entry} {t : List Entry} :
    IsRun a (x :: t) ↔ x.index = a ∧ IsRun (a + 1) t := by
  simp [IsRun, List.range'_succ]

theorem contig_cons_iff {x : Entry} {t : List Entry} : Contig (x :: t) ↔ IsRun x.index (x :: t) := by
  induction t generalizing x with
  | nil => simp [Contig, IsRun]
  | cons y t ih =>
    simp only [Contig, ih, isRun_cons, true_and]
    exact and_congr_right fun h => by rw [h]

theorem isRun_append {a : Nat} {p q : List Entry} :
    IsRun a (p ++ q) ↔ IsRun a p ∧ IsRun (a + p.length) q := by
  unfold IsRun
  rw [List.map_append, List.length_append, ← List.range'_append_1]
  exact ⟨fun h => List.append_inj h (by simp), fun ⟨h1, h2⟩ => by rw [h1, h2]⟩

theorem IsRun.contig {a : Nat} {l : List Entry} (h : IsRun a l) : Contig l := by
  cases l with
  | nil => trivial
  | cons x t => exact contig_cons_iff.mpr ((isRun_cons.mp h).1 ▸ h)

theorem Contig.isRun {l : List Entry} (h : Contig l) {x : Entry} (hd : l.head? = some x) : IsRun x.index l := by
  cases l with
  | nil => cases hd
  | cons y t => cases hd; exact contig_cons_iff.mp h

theorem Contig.tail {a : Entry} {t : List Entry} (h : Contig (a :: t)) : Contig t :=
  (isRun_cons.mp (contig_cons_iff.mp h)).2.contig

/-- position `n - a` of a run from `a` is position `n - (a + 1)` of its tail -/
theorem sub_eq_sub_succ_add_one {a n : Nat} (h : a < n) : n - a = n - (a + 1) + 1 :=
  (Nat.sub_add_cancel (Nat.sub_pos_of_lt h)).symm

namespace IsRun
variable {a : Nat} {l : List Entry}

theorem getElem? (h : IsRun a l) {i : Nat} {x : Entry} (hx : l[i]? = some x) : x.index = a + i := by
  obtain ⟨hi, rfl⟩ := List.getElem?_eq_some_iff.mp hx
  have := congrArg (·[i]?) h
  simpa [hi, List.getElem?_range'] using this

theorem mem (h : IsRun a l) {x : Entry} (hx : x ∈ l) : a ≤ x.index ∧ x.index < a + l.length := by
  have := List.mem_map_of_mem (f := (·.index)) hx
  rwa [h, List.mem_range'_1] at this

theorem take (h : IsRun a l) (k : Nat) : IsRun a (l.take k) :=
  (isRun_append.mp ((List.take_append_drop k l).symm ▸ h)).1

theorem drop (h : IsRun a l) (k : Nat) : IsRun (a + k) (l.drop k) := by
  unfold IsRun at *
  rw [List.map_drop, h, List.length_drop, List.drop_range', Nat.mul_one]

theorem lt_of_mem_take (h : IsRun a l) {k : Nat} {x : Entry} (hx : x ∈ l.take k) : x.index < a + k :=
  Nat.lt_of_lt_of_le ((h.take k).mem hx).2 (Nat.add_le_add_left (List.length_take_le k l) a)

theorem getLast? (h : IsRun a l) {x : Entry} (hx : l.getLast? = some x) : x.index + 1 = a + l.length := by
  obtain ⟨p, rfl⟩ := List.getLast?_eq_some_iff.mp hx
  rw [(isRun_cons.mp (isRun_append.mp h).2).1, List.length_append]
  rfl

theorem headD (h : IsRun a l) (hne : l ≠ []) : (l.headD default).index = a := by
  obtain ⟨x, t, rfl⟩ := List.exists_cons_of_ne_nil hne
  exact (isRun_cons.mp h).1

theorem getLastD (h : IsRun a l) (hne : l ≠ []) : (l.getLast?.getD default).index + 1 = a + l.length := by
  obtain ⟨x, t, rfl⟩ := List.exists_cons_of_ne_nil hne
  exact h.getLast? (by rw [List.getLast?_cons]; rfl)

theorem filter_ge (h : IsRun a l) (lo : Nat) : l.filter (·.index ≥ lo) = l.drop (lo - a) := by
  induction l generalizing a with
  | nil => simp
  | cons x t ih =>
    obtain ⟨rfl, ht⟩ := isRun_cons.mp h
    by_cases hx : lo ≤ x.index
    · rw [Nat.sub_eq_zero_of_le hx]
      exact List.filter_eq_self.mpr fun y hy => decide_eq_true (Nat.le_trans hx (h.mem hy).1)
    · rw [List.filter_cons_of_neg (by simpa using hx), ih ht, sub_eq_sub_succ_add_one (Nat.lt_of_not_le hx)]
      rfl

theorem takeWhile_lt (h : IsRun a l) (hi : Nat) : l.takeWhile (·.index < hi) = l.take (hi - a) := by
  induction l generalizing a with
  | nil => simp
  | cons x t ih =>
    obtain ⟨rfl, ht⟩ := isRun_cons.mp h
    by_cases hx : x.index < hi
    · rw [List.takeWhile_cons_of_pos (by simpa using hx), ih ht, sub_eq_sub_succ_add_one hx]
      rfl
    · rw [List.takeWhile_cons_of_neg (by simpa using hx), Nat.sub_eq_zero_of_le (Nat.le_of_not_lt hx)]
      rfl

theorem find?_ge (h : IsRun a l) (i : Nat) : l.find? (·.index ≥ i) = l[i - a]? := by
  rw [← List.head?_filter, h.filter_ge, List.head?_drop]

theorem find?_eq (h : IsRun a l) {i : Nat} (hi : a ≤ i) : l.find? (·.index == i) = l[i - a]? := by
  induction l generalizing a with
  | nil => rfl
  | cons x t ih =>
    obtain ⟨rfl, ht⟩ := isRun_cons.mp h
    by_cases hx : x.index = i
    · simp [hx]
    · have hlt := Nat.lt_of_le_of_ne hi hx
      rw [List.find?_cons_of_neg (by simpa using hx), ih ht hlt, sub_eq_sub_succ_add_one hlt]
      rfl

end IsRun

theorem Contig.drop {l : List Entry} (h : Contig l) (n : Nat) : Contig (l.drop n) := by
  cases l with
  | nil => rwa [List.drop_nil]
  | cons x t => exact ((contig_cons_iff.mp h).drop n).contig

theorem Contig.head_le {l : List Entry} (h : Contig l) (a : Entry) (hd : l.head? = some a) :
    ∀ x ∈ l, a.index ≤ x.index := fun _ hx => ((h.isRun hd).mem hx).1

theorem Contig.append {l₁ l₂ : List Entry} (h1 : Contig l₁) (h2 : Contig l₂)
    (hj : ∀ a b, l₁.getLast? = some a → l₂.head? = some b → b.index = a.index + 1) : Contig (l₁ ++ l₂) := by
  cases l₁ with
  | nil => exact h2
  | cons x t =>
    cases l₂ with
    | nil => rwa [List.append_nil]
    | cons y u =>
      have h1 := contig_cons_iff.mp h1
      have hy : y.index = x.index + (x :: t).length :=
        (hj _ y List.getLast?_cons rfl).trans (h1.getLast? List.getLast?_cons)
      exact (isRun_append.mpr ⟨h1, hy ▸ contig_cons_iff.mp h2⟩).contig

/-- the scan window `[lo, hi)` over a consecutive run -/
theorem Contig.window {l : List Entry} (h : Contig l) (a : Entry) (hd : l.head? = some a) (lo hi : Nat)
    (hlo : a.index ≤ lo) (hlt : lo - a.index < l.length) :
    (l.filter (fun x => decide (x.index ≥ lo))).takeWhile (fun x => decide (x.index < hi))
      = (l.drop (lo - a.index)).take (hi - lo) := by
  rw [(h.isRun hd).filter_ge, ((h.isRun hd).drop _).takeWhile_lt, Nat.add_sub_cancel' hlo]

end Anndb.Wal
