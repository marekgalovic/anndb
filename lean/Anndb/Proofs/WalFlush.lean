import Anndb.Proofs.WalRefine
/-!
# What a flushed batch does to a consecutive run of entry keys, and the writes (C06)

Every batch the store flushes is sets of a run of keys followed or preceded by deletions of keys
that were on disk. On a disk that holds a run, splitting it at the position `k` of the first written
key gives the result as `take k ++ batch` (`flush_write_run`, what `writeEntries` flushes) or
`entry :: drop (k + 1)` (`flush_compact_run`, what `CreateSnapshot` flushes). The write functions are
first stated as equations, given what their reads return (`writeEntries_eq`, `createSnapshot_eq`);
the write theorems then put the flushed disk under `WF` and `abs`.
-/
namespace Anndb.Wal

/-! ## what a batch does to the disk -/

theorem flush_append (d : Disk) (a b : List BOp) : d.flush (a ++ b) = (d.flush a).flush b :=
  List.foldl_append ..

theorem flush_sets (d : Disk) (es : List Entry) :
    d.flush (es.map .setEntry) = { d with ents := es.foldl (fun l e => insertSorted e l) d.ents } := by
  induction es generalizing d with
  | nil => rfl
  | cons e es ih => exact ih _

theorem flush_dels (d : Disk) (S : List Entry) :
    d.flush (S.map fun e => .delEntry e.index) =
      { d with ents := d.ents.filter fun x => S.all (x.index != ·.index) } := by
  induction S generalizing d with
  | nil => exact congrArg (Disk.mk · d.hs d.ss) (List.filter_eq_self.mpr fun _ _ => rfl).symm
  | cons y S ih =>
    refine (ih _).trans ?_
    simp [Disk.apply, List.filter_filter, Bool.and_comm]

theorem insertSorted_append (e : Entry) (p q : List Entry) (hp : ∀ x ∈ p, x.index < e.index) :
    insertSorted e (p ++ q) = p ++ insertSorted e q := by
  induction p with
  | nil => rfl
  | cons x p ih =>
    have := hp x List.mem_cons_self
    rw [List.cons_append, insertSorted, if_neg (Nat.lt_asymm this), if_neg (by simpa using Nat.ne_of_gt this),
      ih fun y hy => hp y (List.mem_cons_of_mem _ hy), List.cons_append]

theorem insertSorted_run (e : Entry) (q : List Entry) (hq : IsRun e.index q) :
    insertSorted e q = e :: q.drop 1 := by
  cases q with
  | nil => rfl
  | cons x q => simp [insertSorted, (isRun_cons.mp hq).1]

/-- `p`: the keys below the batch; `q`: the disk's run from the batch's first index on, of which the batch
overwrites the first `es.length` -/
theorem foldl_insertSorted_run (es p q : List Entry) (i : Nat) (hes : IsRun i es) (hq : IsRun i q)
    (hp : ∀ x ∈ p, x.index < i) :
    es.foldl (fun l e => insertSorted e l) (p ++ q) = p ++ es ++ q.drop es.length := by
  induction es generalizing p q i with
  | nil => simp
  | cons e es ih =>
    obtain ⟨rfl, hes'⟩ := isRun_cons.mp hes
    rw [List.foldl_cons, insertSorted_append e p q hp, insertSorted_run e q hq]
    have := ih (p ++ [e]) (q.drop 1) (e.index + 1) hes' (hq.drop 1) (by
      intro x hx
      rcases List.mem_append.mp hx with hx | hx
      · exact Nat.lt_succ_of_lt (hp x hx)
      · simp at hx; subst hx; exact Nat.lt_succ_self _)
    simpa [List.append_assoc, Nat.add_comm] using this

theorem filter_dels (P S Q : List Entry) (h : ∀ x ∈ P ++ Q, ∀ y ∈ S, x.index ≠ y.index) :
    (P ++ S ++ Q).filter (fun x => S.all (x.index != ·.index)) = P ++ Q := by
  have keep : ∀ R : List Entry, (∀ x ∈ R, x ∈ P ++ Q) → R.filter (fun x => S.all (x.index != ·.index)) = R :=
    fun R hR => List.filter_eq_self.mpr fun x hx => by simpa using h x (hR x hx)
  rw [List.filter_append, List.filter_append, keep P (fun x hx => List.mem_append_left _ hx),
    keep Q (fun x hx => List.mem_append_right _ hx), List.filter_eq_nil_iff.mpr, List.append_nil]
  intro x hx
  simpa using ⟨x, hx, rfl⟩

theorem foldl_insertSorted_at {l es : List Entry} {a k : Nat} (hl : IsRun a l) (hes : IsRun (a + k) es) :
    es.foldl (fun l e => insertSorted e l) l = l.take k ++ es ++ l.drop (k + es.length) := by
  have := foldl_insertSorted_run es (l.take k) (l.drop k) (a + k) hes (hl.drop k) fun x hx => hl.lt_of_mem_take hx
  rwa [List.take_append_drop, List.drop_drop] at this

theorem flush_write_run {d : Disk} {a k : Nat} {es : List Entry} (hd : IsRun a d.ents) (hes : IsRun (a + k) es) :
    d.flush (es.map .setEntry ++ (d.ents.filter (·.index ≥ a + k + es.length)).map fun e => .delEntry e.index) =
      { d with ents := d.ents.take k ++ es } := by
  rw [flush_append, flush_sets, flush_dels, foldl_insertSorted_at hd hes, hd.filter_ge, Nat.add_assoc,
    Nat.add_sub_cancel_left]
  have := filter_dels (d.ents.take k ++ es) (d.ents.drop (k + es.length)) [] fun x hx y hy => by
    have hy := ((hd.drop _).mem hy).1
    rw [List.append_nil] at hx
    rcases List.mem_append.mp hx with hx | hx
    · have := hd.lt_of_mem_take hx; omega
    · have := (hes.mem hx).2; omega
  rw [List.append_nil, List.append_nil] at this
  rw [this]

theorem flush_compact_run {d : Disk} {a k : Nat} (hd : IsRun a d.ents) (e : Entry) (he : e.index = a + k) (s : Snap) :
    d.flush ([.setSS s, .setEntry e] ++ (d.ents.takeWhile (·.index < e.index)).map fun x => .delEntry x.index) =
      ⟨e :: d.ents.drop (k + 1), d.hs, some s⟩ := by
  rw [flush_append, flush_dels, hd.takeWhile_lt, he, Nat.add_sub_cancel_left]
  show Disk.mk (List.filter _ ([e].foldl (fun l e => insertSorted e l) d.ents)) _ _ = _
  rw [foldl_insertSorted_at hd (isRun_cons.mpr ⟨he, isRun_nil _⟩), List.append_assoc]
  exact congrArg (Disk.mk · d.hs (some s)) <|
    filter_dels [] (d.ents.take k) (e :: d.ents.drop (k + 1)) fun x hx y hy => by
      have hy := hd.lt_of_mem_take hy
      rcases List.mem_cons.mp hx with rfl | hx
      · omega
      · have := ((hd.drop _).mem hx).1; omega

theorem flush_dels_self (d : Disk) : d.flush (d.ents.map fun e => .delEntry e.index) = { d with ents := [] } := by
  rw [flush_dels]
  have := filter_dels [] d.ents [] (by simp)
  rw [List.nil_append, List.append_nil] at this
  rw [this]; rfl

theorem delFrom_zero (w : Wal) : w.delFrom 0 = w.disk.ents.map fun e => .delEntry e.index := by
  rw [Wal.delFrom, List.filter_eq_self.mpr fun _ _ => by simp]

/-! ## what the write functions compute -/

theorem writeSnapshot_eq (w : Wal) {s : Snap} (hs : s.isEmpty = false) :
    w.writeSnapshot s = ([.setSS s, .setEntry ⟨s.index, s.term, 0, 0⟩],
      ⟨w.disk, ⟨some s, w.cache.first, w.cache.last.map (max s.index)⟩⟩) := by
  simp only [Wal.writeSnapshot, hs, Bool.false_eq_true, if_false]
  cases w.cache.last with
  | none => rfl
  | some l =>
    simp only [Option.map_some]
    split
    · rw [Nat.max_eq_left (Nat.le_of_lt ‹_›)]
    · rw [Nat.max_eq_right (Nat.le_of_not_lt ‹_›)]

/-- the part of a batch from index `k` on, as both models write it -/
theorem ite_drop {α} (es : List α) (k i : Nat) : (if k > i then es.drop (k - i) else es) = es.drop (k - i) := by
  split
  · rfl
  · rw [Nat.sub_eq_zero_of_le (Nat.le_of_not_gt ‹_›)]; rfl

theorem writeEntries_eq {w w1 : Wal} {first last : Nat} (hf : w.firstIndex = .ok (first, w1))
    (hl : w1.lastIndex = .ok last) (e0 : Entry) (t : List Entry) :
    w.writeEntries (e0 :: t) = .ok (
      if e0.index + t.length < first then ([], w1)
      else
        let es := (e0 :: t).drop (first - e0.index)
        let lastE := (es.getLast?.getD default).index
        (es.map .setEntry ++ (if last > lastE then w1.delFrom (lastE + 1) else []),
          { w1 with cache := { w1.cache with last := some lastE } })) := by
  simp only [Wal.writeEntries, hf, hl, bind, Except.bind, ite_drop, List.length_cons, Nat.add_succ_sub_one]
  split
  · rfl
  · split <;> simp

/-- the cached first index `f` it leaves is not read again: a snapshot is cached from now on -/
theorem createSnapshot_eq {w w1 : Wal} {first : Nat} (hf : w.firstIndex = .ok (first, w1)) {e x0 : Entry}
    {t0 : List Entry} (hfirst : first ≤ e.index) (he : w1.seekFwd e.index = some e) (hl0 : w1.disk.ents = x0 :: t0)
    (hx0 : x0.index < e.index) (conf data : Nat) :
    ∃ f, w.createSnapshot e.index (some conf) data = .ok
      ⟨w1.disk.flush ([.setSS ⟨e.index, e.term, data, conf⟩, .setEntry ⟨e.index, e.term, 0, 0⟩] ++
          (w1.disk.ents.takeWhile (·.index < e.index)).map fun x => .delEntry x.index),
        ⟨some ⟨e.index, e.term, data, conf⟩, f, w1.cache.last.map (max e.index)⟩⟩ := by
  have hs : (⟨e.index, e.term, data, conf⟩ : Snap).isEmpty = false := Snap.not_isEmpty (Nat.zero_lt_of_lt hx0)
  exact ⟨_, by
    simp only [Wal.createSnapshot, hf, bind, Except.bind, if_neg (Nat.not_lt.mpr hfirst), he, bne_self_eq_false,
      Bool.false_eq_true, if_false, writeSnapshot_eq _ hs, hl0, if_neg (Nat.not_le.mpr hx0)]
    rfl⟩

namespace Mem

theorem append_cons (m : Mem) (e0 : Entry) (t : List Entry) :
    m.append (e0 :: t) =
      if e0.index + t.length < m.firstIndex then m
      else
        let es := (e0 :: t).drop (m.firstIndex - e0.index)
        { m with ents := m.ents.take ((es.headD default).index - m.offset) ++ es } := by
  simp only [Mem.append, ite_drop, List.length_cons, Nat.add_succ_sub_one]

theorem append_hs (m : Mem) (es : List Entry) : (m.append es).hs = m.hs := by
  cases es with
  | nil => rfl
  | cons e0 t => rw [append_cons]; split <;> rfl

theorem applySnapshot_ok {m : Mem} {s : Snap} (h : m.snap.index < s.index) :
    m.applySnapshot s = .ok { m with snap := s, ents := [⟨s.index, s.term, 0, 0⟩] } :=
  if_neg (Nat.not_le.mpr h)

theorem createSnapshot_compact (m : Mem) {i k : Nat} {d : Entry} (hi : i = m.offset + k) (hk : 0 < k)
    (hs : m.snap.index < i) (hd : m.ents.getD k default = d) (conf data : Nat) :
    ∃ m1, m.createSnapshot i conf data = .ok m1 ∧ m1.compact i =
      .ok ⟨m.hs, ⟨i, d.term, data, conf⟩, ⟨d.index, d.term, 0, 0⟩ :: m.ents.drop (k + 1)⟩ := by
  have hik : i - m.offset = k := by rw [hi, Nat.add_sub_cancel_left]
  subst hd
  rw [← hik]
  exact ⟨_, if_neg (Nat.not_le.mpr hs), if_neg (Nat.not_le.mpr (hi ▸ Nat.lt_add_of_pos_right hk))⟩

end Mem

/-! ## writes -/

/-- a hard-state write changes neither `ents`, `ss` nor a cache: every field of `WF` is the old one, definitionally -/
theorem save_hs {d : Disk} {c : Cache} (h : WF ⟨d, c⟩) (hs : HardState) :
    WF ⟨d.flush (if hs.isEmpty then [] else [.setHS hs]), c⟩ ∧
    abs ⟨d.flush (if hs.isEmpty then [] else [.setHS hs]), c⟩ =
      { abs ⟨d, c⟩ with hs := if hs.isEmpty then (abs ⟨d, c⟩).hs else hs } := by
  split <;> exact ⟨⟨h.1, h.2, h.3, h.4, h.5, h.6⟩, rfl⟩

theorem write_run_refines {w : Wal} (h : WF w) {k : Nat} {es : List Entry} (hes : IsRun ((abs w).snap.index + k) es)
    (hne : es ≠ []) (hlo : 1 ≤ k) (hhi : k ≤ w.disk.ents.length) :
    let lastE := (es.getLast?.getD default).index
    let w' : Wal := ⟨w.disk.flush (es.map .setEntry ++ if (abs w).lastIndex > lastE then w.delFrom (lastE + 1) else []),
      { w.cache with last := some lastE }⟩
    WF w' ∧ abs w' = { abs w with ents := (abs w).ents.take k ++ es } := by
  intro lastE w'
  obtain ⟨ne, run, -, first, snap⟩ := (wf_iff w).mp h
  have hlast := h.lastIndex
  have hlastE : lastE + 1 = (abs w).snap.index + k + es.length := hes.getLastD hne
  -- a batch that reaches the last index has nothing above it to delete: both branches flush the same
  have hdel : (if (abs w).lastIndex > lastE then w.delFrom (lastE + 1) else []) =
      (w.disk.ents.filter (·.index ≥ (abs w).snap.index + k + es.length)).map fun e => .delEntry e.index := by
    rw [Wal.delFrom, hlastE]
    split
    · rfl
    · rw [run.filter_ge, Nat.add_assoc, Nat.add_sub_cancel_left, List.drop_eq_nil_of_le (by omega)]; rfl
  have hw' : w' = ⟨{ w.disk with ents := w.disk.ents.take k ++ es }, { w.cache with last := some lastE }⟩ := by
    simp only [w', hdel, flush_write_run run hes]
  have hrunD : IsRun (abs w).snap.index (w.disk.ents.take k ++ es) :=
    isRun_append.mpr ⟨run.take _, by rwa [List.length_take_of_le hhi]⟩
  have hlenD : lastE + 1 = (abs w).snap.index + (w.disk.ents.take k ++ es).length := by
    rw [List.length_append, List.length_take_of_le hhi, hlastE, Nat.add_assoc]
  rw [hw']
  exact ⟨(wf_iff _).mpr ⟨by simp [hne], hrunD, fun l hl => by cases hl; exact hlenD, first, snap⟩,
    congrArg (Mem.mk _ _) (absEnts_take_append _ _ _ hlo ne)⟩

theorem writeEntries_refines (w : Wal) (h : WF w) (es : List Entry) (hes : Contig es)
    (hnogap : ∀ e0, es.head? = some e0 → e0.index ≤ (abs w).lastIndex + 1) :
    ∃ ops w', w.writeEntries es = .ok (ops, w') ∧ WF { w' with disk := w.disk.flush ops } ∧
      abs { w' with disk := w.disk.flush ops } = (abs w).append es := by
  cases es with
  | nil => exact ⟨[], w, rfl, h, rfl⟩
  | cons e0 t =>
    obtain ⟨w1, hf, hdisk, hwf1⟩ := firstIndex_refines w h
    have habs := abs_congr hdisk
    rw [← habs, ← hdisk, Mem.append_cons, writeEntries_eq (habs ▸ hf) (lastIndex_refines w1 hwf1), hwf1.firstIndex]
    split
    · exact ⟨_, _, rfl, hwf1, rfl⟩
    · rename_i hskip
      -- were nothing left of the batch from the first index on, it would end below it
      have hne : (e0 :: t).drop ((abs w1).snap.index + 1 - e0.index) ≠ [] :=
        fun hnil => hskip (Nat.add_lt_of_lt_sub' (List.drop_eq_nil_iff.mp hnil))
      -- what is left starts at the larger of the batch's and the log's first index: a position `k ≥ 1` of the log
      have hrun := (contig_cons_iff.mp hes).drop ((abs w1).snap.index + 1 - e0.index)
      rw [Nat.add_comm e0.index, Nat.sub_add_eq_max] at hrun
      have hlo : (abs w1).snap.index + 1 ≤ max ((abs w1).snap.index + 1) e0.index := Nat.le_max_left ..
      have hhi : max ((abs w1).snap.index + 1) e0.index ≤ (abs w1).snap.index + w1.disk.ents.length :=
        Nat.max_le.mpr ⟨Nat.add_le_add_left (List.length_pos_iff.mpr hwf1.ne) _, hwf1.lastIndex ▸ habs ▸ hnogap e0 rfl⟩
      obtain ⟨k, hk⟩ := Nat.exists_eq_add_of_le (Nat.le_of_succ_le hlo)
      rw [hk] at hrun hlo hhi
      dsimp only
      rw [hrun.headD hne, hwf1.offset, Nat.add_sub_cancel_left]
      exact ⟨_, _, rfl, write_run_refines hwf1 hrun hne (Nat.le_of_add_le_add_left hlo) (Nat.le_of_add_le_add_left hhi)⟩

/-- **`Save` of a batch of entries (no snapshot in the batch) refines `MemoryStorage.Append` +
`SetHardState`** -/
theorem save_entries_refines (w : Wal) (h : WF w) (hs : HardState) (es : List Entry) (hes : Contig es)
    (hnogap : ∀ e0, es.head? = some e0 → e0.index ≤ (abs w).lastIndex + 1) :
    ∃ w', w.save hs es emptySnap = .ok w' ∧ WF w' ∧
      abs w' = { (abs w).append es with hs := if hs.isEmpty then (abs w).hs else hs } := by
  obtain ⟨ops, w', hwe, hwf, habs⟩ := writeEntries_refines w h es hes hnogap
  have := save_hs hwf hs
  rw [habs, Mem.append_hs] at this
  refine ⟨_, ?_, this⟩
  simp only [Wal.save, show emptySnap.isEmpty = true from rfl, if_true, hwe, bind, Except.bind, List.nil_append,
    flush_append]

/-- **`CreateSnapshot` refines `MemoryStorage.CreateSnapshot` followed by `Compact`** -/
theorem createSnapshot_refines (w : Wal) (h : WF w) (idx conf data : Nat)
    (hlo : (abs w).firstIndex ≤ idx) (hhi : idx ≤ (abs w).lastIndex) :
    ∃ w' m1 m2, w.createSnapshot idx (some conf) data = .ok w' ∧ WF w' ∧
      (abs w).createSnapshot idx conf data = .ok m1 ∧ m1.compact idx = .ok m2 ∧ abs w' = m2 := by
  obtain ⟨w1, hf, hdisk, h1⟩ := firstIndex_refines w h
  -- `w1` differs from `w` in a cached value: from here on everything is about `w1`
  rw [← abs_congr hdisk] at hf hlo hhi ⊢
  obtain ⟨ne, run, last, -, -⟩ := (wf_iff w1).mp h1
  have hlast := h1.lastIndex
  -- `idx` is the index of the key `e` at a position `k ≥ 1`
  have hfirst := hlo
  rw [h1.firstIndex] at hlo
  obtain ⟨k, rfl⟩ := Nat.exists_eq_add_of_le (Nat.le_of_succ_le hlo)
  have hk : 1 ≤ k := Nat.le_of_add_le_add_left hlo
  obtain ⟨e, he⟩ : ∃ e, w1.disk.ents[k]? = some e := ⟨_, List.getElem?_eq_getElem (by omega)⟩
  have hei := run.getElem? he
  have hlt : (abs w1).snap.index < e.index := hei ▸ Nat.lt_add_of_pos_right hk
  obtain ⟨x0, t0, hl0⟩ := List.exists_cons_of_ne_nil ne
  have hx0 : x0.index = (abs w1).snap.index := (isRun_cons.mp (hl0 ▸ run)).1
  rw [← hei] at hfirst ⊢
  obtain ⟨f, hc⟩ := createSnapshot_eq hf hfirst
    (by rw [Wal.seekFwd, run.find?_ge, hei, Nat.add_sub_cancel_left]; exact he) hl0 (hx0 ▸ hlt) conf data
  -- the specification's side: position `k` of its log holds `e` too
  obtain ⟨m1, hm1, hm2⟩ := (abs w1).createSnapshot_compact (d := e) (h1.offset ▸ hei) hk hlt
    (by rw [abs_ents, absEnts_getD _ _ hk, List.getD_eq_getElem?_getD, he]; rfl) conf data
  rw [abs_ents, absEnts_drop _ _ (Nat.succ_pos k)] at hm2
  rw [hc, flush_compact_run run ⟨e.index, e.term, 0, 0⟩ hei]
  refine ⟨_, m1, _, rfl, WF.of_snap (Snap.not_isEmpty (Nat.zero_lt_of_lt hlt)) rfl rfl (List.cons_ne_nil _ _)
    (isRun_cons.mpr ⟨rfl, ?_⟩) (fun l hl => ?_), hm1, hm2, rfl⟩
  · have := run.drop (k + 1)
    rwa [← Nat.add_assoc, ← hei] at this
  · -- the cached last index was at or above `idx` already
    obtain ⟨l', hl', rfl⟩ := Option.map_eq_some_iff.mp hl
    have := last l' hl'
    show max e.index l' + 1 = e.index + _
    rw [Nat.max_eq_right (by omega), List.length_cons, List.length_drop]; omega

/-- **`Save` with a received snapshot (and no entries, as etcd/raft hands it over) refines
`MemoryStorage.ApplySnapshot` + `SetHardState`**: the whole log is wiped, the snapshot and its
dummy entry are written, in that order (repair D13); what the store held before does not matter -/
theorem save_snapshot_refines (w : Wal) (hs : HardState) (s : Snap)
    (hnew : (abs w).snap.index < s.index) :
    ∃ w' m1, w.save hs [] s = .ok w' ∧ WF w' ∧ (abs w).applySnapshot s = .ok m1 ∧
      abs w' = { m1 with hs := if hs.isEmpty then (abs w).hs else hs } := by
  have hsne := Snap.not_isEmpty (Nat.zero_lt_of_lt hnew)
  have hwf : WF ⟨⟨[⟨s.index, s.term, 0, 0⟩], w.disk.hs, some s⟩, ⟨some s, w.cache.first, some s.index⟩⟩ :=
    WF.of_snap hsne rfl rfl (List.cons_ne_nil _ _) (isRun_cons.mpr ⟨rfl, isRun_nil _⟩) fun l hl => by cases hl; rfl
  refine ⟨_, _, ?_, (save_hs hwf hs).1, Mem.applySnapshot_ok hnew, (save_hs hwf hs).2⟩
  simp only [Wal.save, hsne, Bool.false_eq_true, if_false, writeSnapshot_eq _ hsne, Wal.writeEntries, bind, Except.bind,
    List.append_nil, flush_append, delFrom_zero, flush_dels_self]
  rfl

/-! ## a `Save` that carries a received snapshot *and* entries

etcd/raft can hand over both in one `Ready` (a follower that restored a snapshot and received an
append before the `Ready` was taken; the entries then start right after the snapshot's index).
`badgerWAL.Save` wipes the log, writes the snapshot and its dummy entry, the entries and the hard
state in one batch (order: repair D13). -/

theorem emptyHS_isEmpty : emptyHS.isEmpty = true := by decide

theorem writeEntries_after_snapshot (d : Disk) (c : Cache) (s : Snap) (hsne : s.isEmpty = false)
    (hc : c.snap = some s) (l : Nat) (hl : c.last = some l) (es : List Entry) (hes : Contig es)
    (e0 : Entry) (he0 : es.head? = some e0) (hstart : e0.index = s.index + 1) (hl' : l ≤ s.index) :
    (⟨d, c⟩ : Wal).writeEntries es =
      .ok (es.map BOp.setEntry, ⟨d, { c with last := some ((es.getLast?.getD default).index) }⟩) := by
  cases es with
  | nil => cases he0
  | cons x rest =>
    cases he0
    have hge := (contig_cons_iff.mp hes).getLastD (List.cons_ne_nil _ _)
    have hle : s.index + 1 ≤ e0.index := Nat.le_of_eq hstart.symm
    rw [writeEntries_eq (w1 := ⟨d, c⟩) (by rw [Wal.firstIndex, cachedSnap_of_snap hc hsne]) (by rw [Wal.lastIndex, hl]),
      if_neg (Nat.not_lt.mpr (Nat.le_trans hle (Nat.le_add_right ..))), Nat.sub_eq_zero_of_le hle]
    simp only [List.drop_zero, if_neg (show ¬ l > ((e0 :: rest).getLast?.getD default).index by omega), List.append_nil]

/-- **one batch = two saves** -/
theorem save_seq (w : Wal) (hs : HardState) (es : List Entry) (s : Snap) (hsne : s.isEmpty = false)
    (hes : Contig es) (e0 : Entry) (he0 : es.head? = some e0) (hstart : e0.index = s.index + 1) :
    (w.save emptyHS [] s).bind (fun w' => w'.save hs es emptySnap) = w.save hs es s := by
  -- after the snapshot part of either save the caches are these, and `writeEntries` reads nothing else
  have hwe : ∀ d : Disk, (⟨d, ⟨some s, w.cache.first, some s.index⟩⟩ : Wal).writeEntries es = _ :=
    fun d => writeEntries_after_snapshot d _ s hsne rfl s.index rfl es hes e0 he0 hstart (Nat.le_refl _)
  simp only [Wal.save, hsne, Bool.false_eq_true, if_false, writeSnapshot_eq _ hsne, bind, Except.bind,
    show ∀ w : Wal, w.writeEntries [] = .ok ([], w) from fun _ => rfl, emptyHS_isEmpty,
    show emptySnap.isEmpty = true from rfl, if_true, hwe, List.append_nil, List.nil_append, flush_append]

/-- **`Save` with a received snapshot and the entries that follow it refines `ApplySnapshot`,
`Append`, `SetHardState`** -/
theorem save_both_refines (w : Wal) (hs : HardState) (s : Snap) (es : List Entry)
    (hnew : (abs w).snap.index < s.index) (hes : Contig es) (e0 : Entry) (he0 : es.head? = some e0)
    (hstart : e0.index = s.index + 1) :
    ∃ w' m1, w.save hs es s = .ok w' ∧ WF w' ∧ (abs w).applySnapshot s = .ok m1 ∧
      abs w' = { m1.append es with hs := if hs.isEmpty then (abs w).hs else hs } := by
  have hsne := Snap.not_isEmpty (Nat.zero_lt_of_lt hnew)
  obtain ⟨w1, m1, hw1, hwf1, hm1, habs1⟩ := save_snapshot_refines w emptyHS s hnew
  cases (Mem.applySnapshot_ok hnew).symm.trans hm1
  have hboth := save_seq w hs es s hsne hes e0 he0 hstart
  rw [hw1] at hboth
  simp only [emptyHS_isEmpty, if_true] at habs1
  have hlast : (abs w1).lastIndex = s.index := by rw [habs1]; rfl
  obtain ⟨w2, hw2, hwf2, habs2⟩ := save_entries_refines w1 hwf1 hs es hes fun e he => by
    cases he0.symm.trans he; exact Nat.le_of_eq (hlast ▸ hstart)
  exact ⟨w2, _, hboth ▸ hw2, hwf2, hm1, by rw [habs2, habs1]⟩

end Anndb.Wal
