import Anndb.Model.PQ
/-! A second, obviously lawful queue (unsorted list, pop extracts a best element):
used for non-vacuity of the index theorems and as the executable queue of the driver
in the order-independent regime. -/
namespace Anndb

/-- extract the first element that is `le`-best -/
def extractBest (le : Item → Item → Bool) : List Item → Option (Item × List Item)
  | [] => none
  | x :: t =>
    match extractBest le t with
    | none => some (x, [])
    | some (y, t') => if le x y then some (x, t) else some (y, x :: t')

def listPQ (le : Item → Item → Bool) : PQImpl where
  Q := List Item
  empty := []
  push q x := x :: q
  pop q := extractBest le q
  toList q := q
  ofList l := l

def minLe (a b : Item) : Bool := a.score ≤ b.score
def maxLe (a b : Item) : Bool := b.score ≤ a.score

theorem extractBest_none (le : Item → Item → Bool) (l : List Item) (h : extractBest le l = none) :
    l = [] := by
  fun_induction extractBest le l
  · rfl
  all_goals cases h

theorem extractBest_some (le : Item → Item → Bool)
    (total : ∀ a b, le a b = true ∨ le b a = true)
    (trans : ∀ a b c, le a b = true → le b c = true → le a c = true)
    (l : List Item) (x : Item) (r : List Item) (h : extractBest le l = some (x, r)) :
    l.Perm (x :: r) ∧ ∀ y ∈ l, le x y = true := by
  have refl : ∀ a, le a a = true := fun a => (total a a).elim id id
  fun_induction extractBest le l generalizing x r with
  | case1 => cases h
  | case2 a t hn =>
    cases extractBest_none le t hn
    cases h
    exact ⟨.refl _, fun y hy => List.mem_singleton.mp hy ▸ refl _⟩
  | case3 a t y t' hs hle ih =>
    cases h
    exact ⟨.refl _, List.forall_mem_cons.mpr ⟨refl _, fun z hz => trans _ _ _ hle ((ih y t' hs).2 z hz)⟩⟩
  | case4 a t y t' hs hle ih =>
    cases h
    obtain ⟨hperm, hbest⟩ := ih y t' hs
    exact ⟨(hperm.cons a).trans (.swap _ _ _), List.forall_mem_cons.mpr ⟨(total y a).resolve_right hle, hbest⟩⟩

theorem listPQ_lawful (le : Item → Item → Bool) (better : Item → Item → Prop)
    (hb : ∀ a b, le a b = true ↔ better a b)
    (total : ∀ a b, le a b = true ∨ le b a = true)
    (trans : ∀ a b c, le a b = true → le b c = true → le a c = true) :
    Lawful (listPQ le) better where
  empty_list := rfl
  push_perm _ _ := List.Perm.refl _
  ofList_perm _ := List.Perm.refl _
  pop_none q h := extractBest_none le q h
  pop_some q x q' h := by
    obtain ⟨hp, hbst⟩ := extractBest_some le total trans q x q' h
    exact ⟨hp, fun y hy => (hb x y).mp (hbst y hy)⟩
  pop_progress q hq := by
    cases h : extractBest le q with
    | none => exact absurd (extractBest_none le q h) hq
    | some p => exact ⟨p.1, p.2, h⟩

theorem minPQ_lawful : Lawful (listPQ minLe) minBetter :=
  listPQ_lawful minLe minBetter (by intro a b; simp [minLe, minBetter])
    (by intro a b; simp only [minLe, decide_eq_true_eq]; exact Nat.le_total _ _)
    (by intro a b c; simp only [minLe, decide_eq_true_eq]; exact Nat.le_trans)

theorem maxPQ_lawful : Lawful (listPQ maxLe) maxBetter :=
  listPQ_lawful maxLe maxBetter (by intro a b; simp [maxLe, maxBetter])
    (by intro a b; simp only [maxLe, decide_eq_true_eq]; exact Nat.le_total _ _)
    (by intro a b c; simp only [maxLe, decide_eq_true_eq]; exact fun h1 h2 => Nat.le_trans h2 h1)

end Anndb
