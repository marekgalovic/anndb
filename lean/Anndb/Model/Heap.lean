import Anndb.Model.PQ
/-!
# `container/heap` verbatim, over the repo's `Less/Swap/Push/Pop` (C19)

`lt a b` is `Less` on the two items (`a.score < b.score` for the min queue,
`a.score > b.score` for the max queue). `up`, `down`, `init`, `push`, `pop` follow
`container/heap` statement by statement; bounds are carried as proofs so that every
array access is in range by construction.
-/
namespace Anndb
namespace Heap

variable (lt : Item → Item → Bool)

def parent (k : Nat) : Nat := (k - 1) / 2

theorem parent_lt {j n : Nat} (h : j < n) : parent j < n :=
  Nat.lt_of_le_of_lt (Nat.le_trans (Nat.div_le_self _ _) (Nat.sub_le _ _)) h

/-- `heap.up` -/
def up (a : Array Item) (j : Nat) (hj : j < a.size) : Array Item :=
  if h0 : j = 0 then a
  else if lt a[j] (a[parent j]'(parent_lt hj)) then
    up (a.swap (parent j) j (parent_lt hj) hj) (parent j) (by rw [Array.size_swap]; exact parent_lt hj)
  else a
termination_by j
decreasing_by unfold parent; omega

/-- the child `heap.down` compares with its parent: the smaller of the two children -/
def pickChild (a : Array Item) (i n : Nat) (hn : n ≤ a.size) (h1 : 2 * i + 1 < n) : Nat :=
  if h2 : 2 * i + 2 < n then
    if lt (a[2 * i + 2]'(by omega)) (a[2 * i + 1]'(by omega)) then 2 * i + 2 else 2 * i + 1
  else 2 * i + 1

theorem pickChild_spec (a : Array Item) (i n : Nat) (hn : n ≤ a.size) (h1 : 2 * i + 1 < n) :
    pickChild lt a i n hn h1 < n ∧ (pickChild lt a i n hn h1 = 2 * i + 1 ∨ pickChild lt a i n hn h1 = 2 * i + 2) := by
  fun_cases pickChild lt a i n hn h1
  case case1 h2 _ => exact ⟨h2, .inr rfl⟩
  all_goals exact ⟨h1, .inl rfl⟩

theorem pickChild_lt (a : Array Item) (i n : Nat) (hn : n ≤ a.size) (h1 : 2 * i + 1 < n) :
    pickChild lt a i n hn h1 < a.size := Nat.lt_of_lt_of_le (pickChild_spec lt a i n hn h1).1 hn

/-- `heap.down` -/
def down (a : Array Item) (i n : Nat) (hn : n ≤ a.size) : Array Item :=
  if h1 : 2 * i + 1 < n then
    if lt (a[pickChild lt a i n hn h1]'(pickChild_lt lt a i n hn h1)) (a[i]'(by omega)) then
      down (a.swap i (pickChild lt a i n hn h1) (by omega) (pickChild_lt lt a i n hn h1))
        (pickChild lt a i n hn h1) n (by rw [Array.size_swap]; exact hn)
    else a
  else a
termination_by n - i
decreasing_by
  have := (pickChild_spec lt a i n hn h1).2
  have := (pickChild_spec lt a i n hn h1).1
  omega

theorem size_up (a : Array Item) (j : Nat) (hj : j < a.size) : (up lt a j hj).size = a.size := by
  fun_induction up lt a j hj with
  | case1 => rfl
  | case2 a j hj h0 hl ih => rw [ih, Array.size_swap]
  | case3 => rfl

theorem size_down (a : Array Item) (i n : Nat) (hn : n ≤ a.size) : (down lt a i n hn).size = a.size := by
  fun_induction down lt a i n hn with
  | case1 a i hn h1 hl ih => rw [ih, Array.size_swap]
  | case2 => rfl
  | case3 => rfl

/-- `heap.Init`: `for i := n/2 - 1; i >= 0; i-- { down(h, i, n) }` -/
def initLoop (a : Array Item) : Nat → Array Item
  | 0 => a
  | k+1 =>
    -- processes index k (called with k+1 = n/2 … 1)
    initLoop (down lt a k a.size (Nat.le_refl _)) k

def init (a : Array Item) : Array Item := initLoop lt a (a.size / 2)

/-- `heap.Push` -/
def push (a : Array Item) (x : Item) : Array Item :=
  up lt (a.push x) a.size (by simp)

/-- `heap.Pop` -/
def pop (a : Array Item) : Option (Item × Array Item) :=
  if h : 0 < a.size then
    some ((down lt (a.swap 0 (a.size - 1) (by omega) (by omega)) 0 (a.size - 1) (by simp))[a.size - 1]'(by
            rw [size_down, Array.size_swap]; omega),
          (down lt (a.swap 0 (a.size - 1) (by omega) (by omega)) 0 (a.size - 1) (by simp)).pop)
  else none

end Heap

def ltMin (a b : Item) : Bool := a.score < b.score
def ltMax (a b : Item) : Bool := b.score < a.score

end Anndb
